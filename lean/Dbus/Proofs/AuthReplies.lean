import Dbus.Spec.Auth
namespace Dbus.Proofs.Auth
open Dbus.Model.Auth

@[simp] theorem say_phase (s : S) (b : Bytes) : (say s b).phase = s.phase := rfl
@[simp] theorem say_mech (s : S) (b : Bytes) : (say s b).mech = s.mech := rfl
@[simp] theorem say_authorized (s : S) (b : Bytes) : (say s b).authorized = s.authorized := rfl
@[simp] theorem say_desired (s : S) (b : Bytes) : (say s b).desired = s.desired := rfl
@[simp] theorem say_identity (s : S) (b : Bytes) : (say s b).identity = s.identity := rfl
@[simp] theorem say_cookieId (s : S) (b : Bytes) : (say s b).cookieId = s.cookieId := rfl
@[simp] theorem say_asked (s : S) (b : Bytes) : (say s b).asked = s.asked := rfl
@[simp] theorem say_failures (s : S) (b : Bytes) : (say s b).failures = s.failures := rfl
@[simp] theorem say_incoming (s : S) (b : Bytes) : (say s b).incoming = s.incoming := rfl
@[simp] theorem say_outgoing (s : S) (b : Bytes) : (say s b).outgoing = s.outgoing ++ b := rfl
@[simp] theorem say_tape (s : S) (b : Bytes) : (say s b).tape = s.tape := rfl
@[simp] theorem say_fdNeg (s : S) (b : Bytes) : (say s b).fdNeg = s.fdNeg := rfl
@[simp] theorem say_challenge (s : S) (b : Bytes) : (say s b).challenge = s.challenge := rfl

theorem withIdentity_eq (s : S) (d : Bytes) :
    withIdentity s d = { s with identity := if d ≠ [] then d else s.identity } := by
  unfold withIdentity; split <;> rfl

def dataLine (d : Bytes) : Bytes := if d = [] then wDATA ++ crlf else wDATA ++ [SP] ++ hexEncode d ++ crlf

theorem sendData_eq (s : S) (d : Bytes) : sendData s d = say s (dataLine d) := by
  unfold sendData dataLine; split <;> rfl

@[simp] theorem withIdentity_phase (s : S) (d : Bytes) : (withIdentity s d).phase = s.phase := by rw [withIdentity_eq]
@[simp] theorem withIdentity_mech (s : S) (d : Bytes) : (withIdentity s d).mech = s.mech := by rw [withIdentity_eq]
@[simp] theorem withIdentity_desired (s : S) (d : Bytes) : (withIdentity s d).desired = s.desired := by rw [withIdentity_eq]
@[simp] theorem withIdentity_authorized (s : S) (d : Bytes) : (withIdentity s d).authorized = s.authorized := by rw [withIdentity_eq]
@[simp] theorem withIdentity_cookieId (s : S) (d : Bytes) : (withIdentity s d).cookieId = s.cookieId := by rw [withIdentity_eq]
@[simp] theorem withIdentity_challenge (s : S) (d : Bytes) : (withIdentity s d).challenge = s.challenge := by rw [withIdentity_eq]
@[simp] theorem withIdentity_asked (s : S) (d : Bytes) : (withIdentity s d).asked = s.asked := by rw [withIdentity_eq]
@[simp] theorem withIdentity_failures (s : S) (d : Bytes) : (withIdentity s d).failures = s.failures := by rw [withIdentity_eq]
@[simp] theorem withIdentity_fdNeg (s : S) (d : Bytes) : (withIdentity s d).fdNeg = s.fdNeg := by rw [withIdentity_eq]
@[simp] theorem withIdentity_incoming (s : S) (d : Bytes) : (withIdentity s d).incoming = s.incoming := by rw [withIdentity_eq]
@[simp] theorem withIdentity_tape (s : S) (d : Bytes) : (withIdentity s d).tape = s.tape := by rw [withIdentity_eq]
@[simp] theorem withIdentity_outgoing (s : S) (d : Bytes) : (withIdentity s d).outgoing = s.outgoing := by rw [withIdentity_eq]
@[simp] theorem sendData_phase (s : S) (d : Bytes) : (sendData s d).phase = s.phase := by rw [sendData_eq]; rfl
@[simp] theorem sendData_mech (s : S) (d : Bytes) : (sendData s d).mech = s.mech := by rw [sendData_eq]; rfl
@[simp] theorem sendData_desired (s : S) (d : Bytes) : (sendData s d).desired = s.desired := by rw [sendData_eq]; rfl
@[simp] theorem sendData_authorized (s : S) (d : Bytes) : (sendData s d).authorized = s.authorized := by rw [sendData_eq]; rfl
@[simp] theorem sendData_cookieId (s : S) (d : Bytes) : (sendData s d).cookieId = s.cookieId := by rw [sendData_eq]; rfl
@[simp] theorem sendData_challenge (s : S) (d : Bytes) : (sendData s d).challenge = s.challenge := by rw [sendData_eq]; rfl
@[simp] theorem sendData_asked (s : S) (d : Bytes) : (sendData s d).asked = s.asked := by rw [sendData_eq]; rfl
@[simp] theorem sendData_failures (s : S) (d : Bytes) : (sendData s d).failures = s.failures := by rw [sendData_eq]; rfl
@[simp] theorem sendData_fdNeg (s : S) (d : Bytes) : (sendData s d).fdNeg = s.fdNeg := by rw [sendData_eq]; rfl
@[simp] theorem sendData_incoming (s : S) (d : Bytes) : (sendData s d).incoming = s.incoming := by rw [sendData_eq]; rfl
@[simp] theorem sendData_tape (s : S) (d : Bytes) : (sendData s d).tape = s.tape := by rw [sendData_eq]; rfl
@[simp] theorem sendData_identity (s : S) (d : Bytes) : (sendData s d).identity = s.identity := by rw [sendData_eq]; rfl
@[simp] theorem sendOk_mech (env : Env) (s : S) : (sendOk env s).mech = s.mech := rfl
@[simp] theorem sendOk_desired (env : Env) (s : S) : (sendOk env s).desired = s.desired := rfl
@[simp] theorem sendOk_authorized (env : Env) (s : S) : (sendOk env s).authorized = s.authorized := rfl
@[simp] theorem sendOk_cookieId (env : Env) (s : S) : (sendOk env s).cookieId = s.cookieId := rfl
@[simp] theorem sendOk_challenge (env : Env) (s : S) : (sendOk env s).challenge = s.challenge := rfl
@[simp] theorem sendOk_asked (env : Env) (s : S) : (sendOk env s).asked = s.asked := rfl
@[simp] theorem sendOk_failures (env : Env) (s : S) : (sendOk env s).failures = s.failures := rfl
@[simp] theorem sendOk_fdNeg (env : Env) (s : S) : (sendOk env s).fdNeg = s.fdNeg := rfl
@[simp] theorem sendOk_incoming (env : Env) (s : S) : (sendOk env s).incoming = s.incoming := rfl
@[simp] theorem sendOk_tape (env : Env) (s : S) : (sendOk env s).tape = s.tape := rfl
@[simp] theorem sendOk_identity (env : Env) (s : S) : (sendOk env s).identity = s.identity := rfl
@[simp] theorem sendOk_phase (env : Env) (s : S) : (sendOk env s).phase = .waitingForBegin := rfl

/-- cookie id and challenge are wiped only if DBUS_COOKIE_SHA1 was running: `shutdown_mech` calls the mechanism's own
    shutdown -/
theorem shutdownMech_eq (s : S) :
    shutdownMech s =
      { s with asked := false, identity := [], authorized := {}, desired := {}, mech := none,
               cookieId := if s.mech = some .cookie then none else s.cookieId,
               challenge := if s.mech = some .cookie then [] else s.challenge } := by
  obtain ⟨_, m, _⟩ := s
  cases m with
  | none => rfl
  | some m => cases m <;> rfl

theorem sendRejected_eq (env : Env) (s : S) :
    sendRejected env s =
      { s with outgoing := s.outgoing ++ rejectedLine env, asked := false, identity := [], authorized := {}, desired := {},
               mech := none,
               cookieId := if s.mech = some .cookie then none else s.cookieId,
               challenge := if s.mech = some .cookie then [] else s.challenge,
               failures := s.failures + 1,
               phase := if s.failures + 1 ≥ MAX_FAILURES then .needDisconnect else .waitingForAuth } := by
  rw [sendRejected, shutdownMech_eq]
  rfl

open Dbus.Spec.Auth

theorem kindOf_rejectedLine (env : Env) : kindOf (rejectedLine env) = .rejected := rfl

theorem kindOf_dataLine (d : Bytes) : kindOf (dataLine d) = .data := by
  unfold dataLine; split <;> rfl

end Dbus.Proofs.Auth
