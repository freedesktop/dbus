import Dbus.Model.Wire
/-
  A fixed-width integer is a `Nat` written digit by digit in base 256 (`n % 256`, then `n / 256`); big-endian is the
  little-endian list reversed.  Every alignment divides 8 (`ty_align_dvd`): offsets that agree modulo 8 pad alike and
  agree again afterwards (`align_congr`), which is what `EditWF` moves encodings by.
-/
namespace Dbus.Proofs.Wire
open Dbus.Spec Dbus.Model

theorem encLE_length (k n : Nat) : (encLE k n).length = k := by
  induction k generalizing n with
  | zero => rfl
  | succ k ih => simp [encLE, ih]

theorem decLE_encLE (k n : Nat) (h : n < 256 ^ k) : decLE (encLE k n) = n := by
  induction k generalizing n with
  | zero => simp [Nat.pow_zero] at h; simp [encLE, decLE, h]
  | succ k ih =>
    simp only [encLE, decLE, UInt8.toNat_ofNat']
    rw [ih (n / 256) (by rw [Nat.pow_succ] at h; omega)]
    omega

theorem decLE_lt (bs : Bytes) : decLE bs < 256 ^ bs.length := by
  induction bs with
  | nil => simp [decLE]
  | cons b bs ih =>
    simp only [decLE, List.length_cons, Nat.pow_succ]
    have := b.toNat_lt
    omega

theorem encLE_decLE (bs : Bytes) : encLE bs.length (decLE bs) = bs := by
  induction bs with
  | nil => rfl
  | cons b bs ih =>
    have hb := b.toNat_lt
    simp only [List.length_cons, encLE, decLE]
    have h1 : (b.toNat + 256 * decLE bs) % 256 = b.toNat := by omega
    have h2 : (b.toNat + 256 * decLE bs) / 256 = decLE bs := by omega
    rw [h1, h2, ih, UInt8.ofNat_toNat]

theorem encNat_length (e : Endian) (k n : Nat) : (encNat e k n).length = k := by
  cases e <;> simp [encNat, encLE_length]

theorem decNat_encNat (e : Endian) (k n : Nat) (h : n < 256 ^ k) : decNat e (encNat e k n) = n := by
  cases e <;> simp [encNat, decNat, decLE_encLE k n h]

theorem encNat_decNat (e : Endian) (bs : Bytes) : encNat e bs.length (decNat e bs) = bs := by
  cases e with
  | little => exact encLE_decLE bs
  | big =>
    simp only [encNat, decNat]
    have := encLE_decLE bs.reverse
    rw [List.length_reverse] at this
    rw [this, List.reverse_reverse]

theorem decNat_lt (e : Endian) (bs : Bytes) : decNat e bs < 256 ^ bs.length := by
  cases e with
  | little => exact decLE_lt bs
  | big => simpa [decNat] using decLE_lt bs.reverse

theorem pad_length (off a : Nat) : (pad off a).length = padLen off a := by simp [pad]

theorem padLen_congr {off off' a : Nat} (h : off % a = off' % a) : padLen off a = padLen off' a := by
  unfold padLen; rw [h]

theorem add_mod8 {off off' k k' : Nat} (h : off % 8 = off' % 8) (hk : k = k') :
    (off + k) % 8 = (off' + k') % 8 := by
  rw [Nat.add_mod, h, hk, ← Nat.add_mod]

theorem align_congr {off off' : Nat} (a : Nat) (ha : a ∣ 8) (h : off % 8 = off' % 8) :
    padLen off a = padLen off' a ∧ (off + padLen off a) % 8 = (off' + padLen off' a) % 8 :=
  have hm : off % a = off' % a := by rw [← Nat.mod_mod_of_dvd off ha, h, Nat.mod_mod_of_dvd off' ha]
  have hp := padLen_congr hm
  ⟨hp, add_mod8 h hp⟩

theorem bty_align_dvd (b : BTy) : b.align ∣ 8 := by cases b <;> decide

theorem ty_align_dvd : ∀ t : Ty, t.align ∣ 8
  | .basic b => bty_align_dvd b
  | .variant => ⟨8, rfl⟩
  | .array _ | .dict _ _ => ⟨2, rfl⟩
  | .struct _ => ⟨1, rfl⟩

theorem takeN_eq_some {n : Nat} {bs x r : Bytes} :
    takeN n bs = some (x, r) ↔ bs = x ++ r ∧ x.length = n := by
  unfold takeN
  constructor
  · intro h
    split at h
    · cases h
    · cases h
      exact ⟨(List.take_append_drop n bs).symm, List.length_take_of_le (by omega)⟩
  · rintro ⟨rfl, rfl⟩
    rw [if_neg (by simp), List.take_left, List.drop_left]

theorem all_zero_pad (l : Bytes) (n a : Nat) (hz : l.all (· == 0) = true) (hl : l.length = padLen n a) :
    l = pad n a :=
  List.eq_replicate_iff.2 ⟨hl, fun b hb => beq_iff_eq.1 (List.all_eq_true.1 hz b hb)⟩

theorem takePad_eq_some {off a : Nat} {bs r : Bytes} : takePad off a bs = some r ↔ bs = pad off a ++ r := by
  unfold takePad
  constructor
  · intro h
    split at h
    · cases h
    · split at h
      · rename_i hl hz
        cases h
        rw [← all_zero_pad _ off a hz (List.length_take_of_le (by omega)), List.take_append_drop]
      · cases h
  · rintro rfl
    have hl : (pad off a).length = padLen off a := pad_length off a
    rw [if_neg (by simp [hl]), ← hl, List.take_left, List.drop_left, if_pos (by simp [pad])]

theorem takeNat_eq_some {e : Endian} {k n : Nat} {bs r : Bytes} :
    takeNat e k bs = some (n, r) ↔ bs = encNat e k n ++ r ∧ n < 256 ^ k := by
  unfold takeNat
  constructor
  · intro h
    split at h
    · rename_i x r' ht
      cases h
      obtain ⟨rfl, rfl⟩ := takeN_eq_some.1 ht
      exact ⟨by rw [encNat_decNat], decNat_lt e x⟩
    · cases h
  · rintro ⟨rfl, hn⟩
    rw [takeN_eq_some.2 ⟨rfl, encNat_length e k n⟩]
    exact congrArg (fun x => some (x, r)) (decNat_encNat e k n hn)

theorem takeNul_eq_some {bs r : Bytes} : takeNul bs = some r ↔ bs = 0 :: r := by
  unfold takeNul
  constructor
  · intro h
    split at h
    · split at h
      · rename_i hb; cases h; rw [hb]
      · cases h
    · cases h
  · rintro rfl; rfl

theorem encNat_one (e : Endian) (n : Nat) : encNat e 1 n = [UInt8.ofNat (n % 256)] := by
  cases e <;> simp [encNat, encLE]

theorem takeNat_one_eq_some {e : Endian} {n : Nat} {bs r : Bytes} :
    takeNat e 1 bs = some (n, r) ↔ bs = UInt8.ofNat n :: r ∧ n < 256 := by
  rw [takeNat_eq_some, encNat_one, UInt8.ofNat_mod_size']
  rfl

end Dbus.Proofs.Wire
