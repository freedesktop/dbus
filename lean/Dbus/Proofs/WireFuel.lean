import Dbus.Proofs.WireDecode
import Dbus.Model.Message
/-
  The fuel the decoder needs is bounded by the byte length of what it decodes:
  `need v ≤ 2·|encode v| + 3·(65 − d)`, so the callers' `fuelFor n = 2n + 512` always suffices
  and the decoder is characterised without mention of fuel (`decodeFields_iff`).
-/
namespace Dbus.Proofs.Wire
open Dbus.Spec Dbus.Model

/-! how the bound passes through each constructor: `a`, `b` are needs, `x`, `y` byte lengths, `c` the
    credit `3 * (65 - d)` of the depth, the other summands padding and length words -/

theorem fuel_leaf {x c : Nat} (hx : 1 ≤ x) : 1 ≤ 2 * x + c := by omega

theorem credit_le {d d' : Nat} (hd : d ≤ d') : 3 * (65 - d') ≤ 3 * (65 - d) :=
  Nat.mul_le_mul_left 3 (Nat.sub_le_sub_left hd 65)

theorem credit_succ {d : Nat} (hd : d + 1 ≤ 64) : 3 * (65 - (d + 1)) + 3 ≤ 3 * (65 - d) := by omega

theorem fuel_variant {a k q x c c' : Nat} (hc : c' ≤ c) (ih : a ≤ 2 * x + c') :
    a + 1 ≤ 2 * (k + 2 + (q + x)) + c := by omega

theorem fuel_array {a p q x c c' : Nat} (hc : c' ≤ c) (ih : a ≤ 2 * x + c' + 2) :
    a + 1 ≤ 2 * (p + (4 + (q + x))) + c := by omega

/-- a struct adds no byte of its own when it is aligned: this is where the depth limit pays -/
theorem fuel_struct {a p x c c' : Nat} (hc : c' + 3 ≤ c) (ih : a ≤ 2 * x + c' + 2) :
    a + 1 ≤ 2 * (p + x) + c := by omega

theorem fuel_cons {a b x y c : Nat} (ha : a ≤ 2 * x + c) (hb : b ≤ 2 * y + c + 2) (hx : 1 ≤ x) :
    max a b + 1 ≤ 2 * (x + y) + c + 2 := by omega

theorem fuel_entry {a b r p x y z c : Nat} (ha : a ≤ 2 * x + c) (hb : b ≤ 2 * y + c) (hr : r ≤ 2 * z + c + 2)
    (hx : 1 ≤ x) (hy : 1 ≤ y) : max (max a b) r + 1 ≤ 2 * (p + (x + (y + z))) + c + 2 := by omega

variable (e : Endian)

mutual
theorem need_le : ∀ (v : Val) (t : Ty) (d off : Nat), WFVal e d off v t →
    need v ≤ 2 * (encode e off v).length + 3 * (65 - d)
  | .fixed b n, t, d, off, h => fuel_leaf (encode_pos e _ _ d off h)
  | .str b s, t, d, off, h => fuel_leaf (encode_pos e _ _ d off h)
  | .variant t' v, t, d, off, h => by
    rw [need, encode_variant_length]
    exact fuel_variant (credit_le (Nat.le_succ d)) (need_le v t' (d + 1) _ (wfVal_variant_iff.1 h).2.2.2.2.2)
  | .array et vs, t, d, off, h => by
    rw [need, encode_array_length]
    exact fuel_array (credit_le (Nat.le_succ d)) (needElems_le vs et (d + 1) _ (wfVal_array_iff.1 h).2.2)
  | .struct vs, t, d, off, h => by
    obtain ⟨ts, _, _, hd, hf⟩ := wfVal_struct_iff.1 h
    rw [need, encode_struct_length]
    exact fuel_struct (credit_succ hd) (needFields_le vs ts (d + 1) _ hf)
  | .dict k vt es, t, d, off, h => by
    rw [need, encode_dict_length]
    exact fuel_array (credit_le (Nat.le_add_right d 2)) (needEntries_le es k vt (d + 2) _ (wfVal_dict_iff.1 h).2.2)
theorem needFields_le : ∀ (vs : List Val) (ts : List Ty) (d off : Nat), WFFields e d off vs ts →
    needList vs ≤ 2 * (encodeList e off vs).length + 3 * (65 - d) + 2
  | [], [], d, off, _ => Nat.le_add_left ..
  | v :: vs, t :: ts, d, off, h => by
    rw [needList, encodeList, List.length_append]
    exact fuel_cons (need_le v t d off h.1) (needFields_le vs ts d _ h.2) (encode_pos e v t d off h.1)
  | [], _ :: _, _, _, h => h.elim
  | _ :: _, [], _, _, h => h.elim
theorem needElems_le : ∀ (vs : List Val) (t : Ty) (d off : Nat), WFElems e d off vs t →
    needList vs ≤ 2 * (encodeList e off vs).length + 3 * (65 - d) + 2
  | [], t, d, off, _ => Nat.le_add_left ..
  | v :: vs, t, d, off, h => by
    rw [needList, encodeList, List.length_append]
    exact fuel_cons (need_le v t d off h.2.1) (needElems_le vs t d _ h.2.2) (encode_pos e v t d off h.2.1)
theorem needEntries_le : ∀ (es : List (Val × Val)) (kt : BTy) (vt : Ty) (d off : Nat),
    WFEntries e d off es kt vt →
    needEntries es ≤ 2 * (encodeEntries e off es).length + 3 * (65 - d) + 2
  | [], kt, vt, d, off, _ => Nat.le_add_left ..
  | (k, v) :: es, kt, vt, d, off, h => by
    obtain ⟨_, hk, hv, hr⟩ := h
    rw [needEntries, encodeEntries_cons, List.length_append, List.length_append, List.length_append]
    exact fuel_entry (need_le k _ d _ hk) (need_le v vt d _ hv) (needEntries_le es kt vt d _ hr)
      (encode_pos e k _ d _ hk) (encode_pos e v vt d _ hv)
end

theorem fuelFor_covers (vs : List Val) (ts : List Ty) (off n : Nat)
    (h : WFFields e 0 off vs ts) (hn : (encodeList e off vs).length ≤ n) :
    needList vs ≤ fuelFor n := by
  have := needFields_le e vs ts 0 off h
  unfold fuelFor
  omega

theorem decodeFields_iff_of_fuel (e : Endian) {g : Nat} {ts : List Ty} {off : Nat} {bs : Bytes}
    (hg : fuelFor bs.length ≤ g) {vs : List Val} {r : Bytes} :
    decodeFields e g 0 ts off bs = some (vs, r) ↔
      (bs = encodeList e off vs ++ r ∧ WFFields e 0 off vs ts) := by
  rw [decodeFields_eq_some]
  refine ⟨fun h => ⟨h.1, h.2.1⟩, fun h => ⟨h.1, h.2, Nat.le_trans ?_ hg⟩⟩
  exact fuelFor_covers e vs ts off _ h.2 (by rw [h.1, List.length_append]; omega)

theorem decodeFields_fuel_indep (e : Endian) (ts : List Ty) (off : Nat) (bs : Bytes) (f1 f2 : Nat)
    (h1 : fuelFor bs.length ≤ f1) (h2 : fuelFor bs.length ≤ f2) :
    decodeFields e f1 0 ts off bs = decodeFields e f2 0 ts off bs :=
  Option.ext fun ⟨_, _⟩ => (decodeFields_iff_of_fuel e h1).trans (decodeFields_iff_of_fuel e h2).symm

theorem decodeFields_iff (e : Endian) (ts : List Ty) (bs : Bytes) (vs : List Val) (r : Bytes) :
    decodeFields e (fuelFor bs.length) 0 ts 0 bs = some (vs, r) ↔
      (bs = encodeList e 0 vs ++ r ∧ WFFields e 0 0 vs ts) :=
  decodeFields_iff_of_fuel e (Nat.le_refl _)

theorem validate_prefix_stable (e : Endian) (ts : List Ty) (a b : Bytes) (vs : List Val) (r : Bytes)
    (h : decodeFields e (fuelFor a.length) 0 ts 0 a = some (vs, r)) :
    decodeFields e (fuelFor (a ++ b).length) 0 ts 0 (a ++ b) = some (vs, r ++ b) := by
  obtain ⟨ha, hwf⟩ := (decodeFields_iff e ts a vs r).1 h
  exact (decodeFields_iff e ts (a ++ b) vs (r ++ b)).2 ⟨by rw [ha, List.append_assoc], hwf⟩

theorem append_eq_append_of_le {a b x r : Bytes} (h : a ++ b = x ++ r) (hl : x.length ≤ a.length) :
    ∃ r', a = x ++ r' ∧ r = r' ++ b := by
  rcases List.append_eq_append_iff.1 h with ⟨as, rfl, rfl⟩ | h
  · -- `x = a ++ as` is no longer than `a`, so `as = []`
    rw [List.length_append] at hl
    cases List.eq_nil_of_length_eq_zero (by omega : as.length = 0)
    exact ⟨[], by rw [List.append_nil, List.append_nil], rfl⟩
  · exact h

theorem validate_prefix_reflects (e : Endian) (ts : List Ty) (a b : Bytes) (vs : List Val) (r : Bytes)
    (h : decodeFields e (fuelFor (a ++ b).length) 0 ts 0 (a ++ b) = some (vs, r))
    (hlen : (encodeList e 0 vs).length ≤ a.length) :
    ∃ r', r = r' ++ b ∧ decodeFields e (fuelFor a.length) 0 ts 0 a = some (vs, r') := by
  obtain ⟨hab, hwf⟩ := (decodeFields_iff e ts (a ++ b) vs r).1 h
  obtain ⟨r', ha, hr⟩ := append_eq_append_of_le hab hlen
  exact ⟨r', hr, (decodeFields_iff e ts a vs r').2 ⟨ha, hwf⟩⟩

end Dbus.Proofs.Wire
