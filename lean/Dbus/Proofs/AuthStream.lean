import Dbus.Proofs.AuthStep
/-
  `doWork` takes whole lines from the front of the input and stops for good at the end of the handshake; the line that
  completes it is a BEGIN.
-/
namespace Dbus.Proofs.Auth
open Dbus.Model.Auth Dbus.Spec.Auth

theorem doWork_end (env : Env) (fuel : Nat) (s : S) (h : s.phase.isEnd = true) : doWork env fuel s = s := by
  cases fuel with
  | zero => rfl
  | succ n => unfold doWork; simp [h]

theorem findCRLF_some (l : Bytes) (n : Nat) (h : findCRLF l = some n) :
    l = l.take n ++ crlf ++ l.drop (n + 2) ∧ findCRLF (l.take n) = none := by
  fun_induction findCRLF l generalizing n with
  | case1 a b r hab =>
    cases h
    rw [hab.1, hab.2]
    exact ⟨rfl, rfl⟩
  | case2 a b r hab ih =>
    obtain ⟨m, hm, rfl⟩ := Option.map_eq_some_iff.mp h
    obtain ⟨h1, h2⟩ := ih m hm
    refine ⟨congrArg (a :: ·) h1, ?_⟩
    cases m with
    | zero => rfl
    | succ k =>
      rw [List.take_succ_cons] at h2
      rw [List.take_succ_cons, List.take_succ_cons, findCRLF, if_neg hab, h2]
      rfl
  | case3 => cases h

theorem findCRLF_le (l : Bytes) (n : Nat) (h : findCRLF l = some n) : n + 2 ≤ l.length := by
  have := congrArg List.length (findCRLF_some l n h).1
  simp only [List.length_append, List.length_take, List.length_drop, crlf, List.length_cons, List.length_nil] at this
  omega

/-- bytes consumed from a stream as complete lines -/
def LinesPrefix (pre : Bytes) : Prop := pre = [] ∨ ∃ p, pre = p ++ crlf

def IsBegin (line : Bytes) : Prop :=
  line.all isAscii = true ∧ cmdOf (splitLine line).1 = .begin ∧ findCRLF line = none

/-- the consumed prefix ends with the BEGIN line that completed the handshake -/
def EndsWithBegin (pre : Bytes) : Prop := ∃ p line, pre = p ++ line ++ crlf ∧ LinesPrefix p ∧ IsBegin line

theorem linesPrefix_append {p : Bytes} (line : Bytes) : LinesPrefix (p ++ line ++ crlf) := Or.inr ⟨p ++ line, rfl⟩

theorem LinesPrefix.append {p q : Bytes} (hp : LinesPrefix p) (hq : LinesPrefix q) : LinesPrefix (p ++ q) := by
  obtain rfl | ⟨x, rfl⟩ := hq
  · rwa [List.append_nil]
  · exact .inr ⟨p ++ x, (List.append_assoc ..).symm⟩

theorem EndsWithBegin.append_left {p q : Bytes} (hp : LinesPrefix p) (hq : EndsWithBegin q) : EndsWithBegin (p ++ q) := by
  obtain ⟨x, line, rfl, hx, hl⟩ := hq
  exact ⟨p ++ x, line, by simp only [List.append_assoc], hp.append hx, hl⟩

theorem specAllows_authenticated {p : Phase} {c : Cmd} {k : Kind} (h : specAllows p c k .authenticated = true) :
    p = .waitingForBegin ∧ c = .begin := by
  revert h
  fun_cases specAllows p c k .authenticated
  -- the tenth row is BEGIN in WaitingForBegin; every other row names the phases it leads to
  case case10 => exact fun _ => ⟨rfl, rfl⟩
  all_goals simp [mechReplies, rejectedTo]

theorem authenticated_step (env : Env) (s : S) (line : Bytes) (hi : Inv env s) (hne : s.phase.isEnd = false)
    (h : (handleLine env s line).phase = .authenticated) :
    s.phase = .waitingForBegin ∧ line.all isAscii = true ∧ cmdOf (splitLine line).1 = .begin := by
  obtain ⟨r, hr⟩ := handleLine_step env s line hi hne
  have hs := hr.spec
  rw [h] at hs
  cases ha : line.all isAscii with
  | false =>
    rw [← ((lineAllows_other ha).mp hs).2] at hne; cases hne
  | true =>
    rw [lineAllows_ascii ha] at hs
    exact ⟨(specAllows_authenticated hs).1, rfl, (specAllows_authenticated hs).2⟩

/-- `pre` is what the server takes from the front of its input on the way from phase `p` to phase `p'` -/
structure Consumed (p p' : Phase) (pre : Bytes) : Prop where
  lines : LinesPrefix pre
  begin : p' = .authenticated → (p = .authenticated ∧ pre = []) ∨ EndsWithBegin pre

theorem Consumed.refl (p : Phase) : Consumed p p [] := ⟨.inl rfl, fun h => .inl ⟨h, rfl⟩⟩

theorem Consumed.trans {p m p' : Phase} {a b : Bytes} (h1 : Consumed p m a) (h2 : Consumed m p' b) :
    Consumed p p' (a ++ b) := by
  refine ⟨h1.lines.append h2.lines, fun h => ?_⟩
  obtain ⟨hm, rfl⟩ | hb := h2.begin h
  · rw [List.append_nil]; exact h1.begin hm
  · exact .inr (hb.append_left h1.lines)

theorem doWork_stream (env : Env) (fuel : Nat) (s : S) (hi : Inv env s) :
    ∃ pre, s.incoming = pre ++ (doWork env fuel s).incoming ∧ Consumed s.phase (doWork env fuel s).phase pre := by
  -- the cases of `doWork`: no fuel; phase at an end; a buffer over its bound; no CRLF yet; a line
  fun_induction doWork env fuel s with
  | case3 => exact ⟨[], rfl, .inl rfl, nofun⟩
  | case5 fuel s hne _ eol heol s' ih =>
    have hne : s.phase.isEnd = false := by simpa using hne
    obtain ⟨hsplit, hfirst⟩ := findCRLF_some _ _ heol
    obtain ⟨_, hstep⟩ := handleLine_step env s (s.incoming.take eol) hi hne
    obtain ⟨pre, h1, h2⟩ := ih (hstep.inv.buffers (s.incoming.drop (eol + 2)) _ _)
    have hline : Consumed s.phase s'.phase (s.incoming.take eol ++ crlf) :=
      ⟨linesPrefix_append (p := []) _, fun h =>
        have ⟨_, ha, hc⟩ := authenticated_step env s (s.incoming.take eol) hi hne h
        .inr ⟨[], _, rfl, .inl rfl, ha, hc, hfirst⟩⟩
    exact ⟨s.incoming.take eol ++ crlf ++ pre, by rw [List.append_assoc, ← h1]; exact hsplit, hline.trans h2⟩
  | _ => exact ⟨[], rfl, .refl _⟩

theorem doWork_bound (env : Env) (fuel : Nat) (s : S) (hf : s.incoming.length < fuel) :
    (doWork env fuel s).phase.isEnd = true ∨
    ((doWork env fuel s).incoming.length ≤ MAX_BUFFER ∧ findCRLF (doWork env fuel s).incoming = none) := by
  fun_induction doWork env fuel s with
  | case1 => exact absurd hf (Nat.not_lt_zero _)
  | case2 _ _ h => exact .inl h
  | case3 => exact .inl rfl
  | case4 _ s _ hover hnone => exact .inr ⟨Nat.le_of_not_gt fun h => hover (.inl h), hnone⟩
  | case5 fuel s _ _ eol heol s' ih =>
    apply ih
    show (s.incoming.drop (eol + 2)).length < fuel
    rw [List.length_drop]
    exact Nat.sub_lt_left_of_lt_add (findCRLF_le _ _ heol) (Nat.lt_of_lt_of_le hf (by omega))

end Dbus.Proofs.Auth
