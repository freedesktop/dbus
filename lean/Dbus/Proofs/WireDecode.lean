import Dbus.Proofs.WireValue
import Dbus.Props.C16
/-
  `decode` and `decodeFields` are stream readers (they return what is left), so their statements carry an arbitrary
  remainder `r` and nothing has to be said about prefixes or positions; `decodeElems` and `decodeEntries` are handed the
  body of an array, cut off by its length word, and consume it exactly.
-/
namespace Dbus.Proofs.Wire
open Dbus.Spec Dbus.Model

theorem variantType_eq_some {sg : Bytes} {t : Ty} :
    variantType sg = some t ↔ sg = t.print ∧ t.WF ∧ t.DepthLax ∧ t.print.length ≤ 255 := by
  have hparse : ∀ t : Ty, t.WF → parseSignature t.print = some [t] := fun t hwf =>
    (parseSignature_eq_some _ _).2 ⟨(List.append_nil _).symm, hwf, trivial⟩
  unfold variantType
  constructor
  · intro h
    split at h
    · rename_i hv
      split at h
      · rename_i t' hp
        cases h
        obtain ⟨hl, t2, rfl, hwf2, hd2⟩ := (Props.C16.validateSingle_iff_lax sg).1 hv
        rw [hparse t2 hwf2] at hp
        cases hp
        exact ⟨rfl, hwf2, hd2, hl⟩
      · cases h
    · cases h
  · rintro ⟨rfl, hwf, hd, hl⟩
    rw [if_pos ((Props.C16.validateSingle_iff_lax _).2 ⟨hl, t, rfl, hwf, hd⟩), hparse t hwf]

theorem stringOK_iff {b : BTy} {s : Bytes} (hb : b.isFixed = false) :
    stringOK b s = true ↔ (b = .str → SpecUtf8 s) ∧ (b = .path → SpecPath s) ∧ (b = .sig → SigOK s) := by
  cases b with
  | str => simpa [stringOK] using Props.C16.validateUtf8_iff s
  | path => simpa [stringOK] using Props.C16.validatePath_iff s
  | sig => simpa [stringOK, SigOK] using Props.C16.validateSignature_iff s
  | _ => cases hb

theorem sigOK_length {s : Bytes} (h : SigOK s) : s.length ≤ 255 := h.elim (·.1) (·.1)

mutual
/-- longest chain of decoder calls a value requires -/
def need : Val → Nat
  | .fixed _ _ => 1
  | .str _ _ => 1
  | .variant _ v => need v + 1
  | .array _ vs => needList vs + 1
  | .struct vs => needList vs + 1
  | .dict _ _ es => needEntries es + 1
def needList : List Val → Nat
  | [] => 1
  | v :: vs => max (need v) (needList vs) + 1
def needEntries : List (Val × Val) → Nat
  | [] => 1
  | (k, v) :: es => max (max (need k) (need v)) (needEntries es) + 1
end

theorem need_pos : ∀ v, 0 < need v
  | .fixed .. | .str .. => Nat.one_pos
  | .variant .. | .array .. | .struct .. | .dict .. => Nat.succ_pos _

theorem needList_pos : ∀ vs, 0 < needList vs
  | [] => Nat.one_pos
  | _ :: _ => Nat.succ_pos _

theorem needEntries_pos : ∀ es, 0 < needEntries es
  | [] => Nat.one_pos
  | (_, _) :: _ => Nat.succ_pos _

/-! One round of `decode`, type by type.  Each proof unfolds it, reads every `bind` as an
existential and every primitive through its iff (the `simp only`), and then drops the
intermediate remainders. -/
section equations
variable {e : Endian} {g d off : Nat} {bs r : Bytes} {v : Val}

theorem decode_fixed_eq_some {b : BTy} (hb : b.isFixed = true) :
    decode e (g + 1) d (.basic b) off bs = some (v, r) ↔
      ∃ n, bs = pad off b.align ++ (encNat e b.size n ++ r) ∧ n < 256 ^ b.size ∧
        ¬ (b = .bool ∧ 1 < n) ∧ v = .fixed b n := by
  simp only [decode, hb, if_true, Option.bind_eq_some_iff, Prod.exists, takePad_eq_some, takeNat_eq_some,
    Option.ite_none_left_eq_some, Option.some.injEq, Prod.mk.injEq]
  constructor
  · rintro ⟨_, rfl, n, _, ⟨rfl, hn⟩, hbool, rfl, rfl⟩; exact ⟨n, rfl, hn, hbool, rfl⟩
  · rintro ⟨n, rfl, hn, hbool, rfl⟩; exact ⟨_, rfl, n, _, ⟨rfl, hn⟩, hbool, rfl, rfl⟩

theorem decode_sig_eq_some :
    decode e (g + 1) d (.basic .sig) off bs = some (v, r) ↔
      ∃ s, bs = UInt8.ofNat s.length :: (s ++ 0 :: r) ∧ s.length < 256 ∧ stringOK .sig s = true ∧
        v = .str .sig s := by
  have hb : BTy.sig.isFixed = false := rfl
  simp only [decode, hb, Bool.false_eq_true, if_false, if_true, Option.bind_eq_some_iff, Prod.exists,
    takeNat_one_eq_some, takeN_eq_some, takeNul_eq_some, Option.ite_none_right_eq_some, Option.some.injEq,
    Prod.mk.injEq]
  constructor
  · rintro ⟨_, _, ⟨rfl, hn⟩, s, _, ⟨rfl, rfl⟩, _, rfl, hok, rfl, rfl⟩; exact ⟨s, rfl, hn, hok, rfl⟩
  · rintro ⟨s, rfl, hn, hok, rfl⟩; exact ⟨_, _, ⟨rfl, hn⟩, s, _, ⟨rfl, rfl⟩, _, rfl, hok, rfl, rfl⟩

theorem decode_str_eq_some {b : BTy} (hb : b.isFixed = false) (hs : b ≠ .sig) :
    decode e (g + 1) d (.basic b) off bs = some (v, r) ↔
      ∃ s, bs = pad off 4 ++ (encNat e 4 s.length ++ (s ++ 0 :: r)) ∧ s.length < 256 ^ 4 ∧
        stringOK b s = true ∧ v = .str b s := by
  simp only [decode, hb, hs, Bool.false_eq_true, if_false, Option.bind_eq_some_iff, Prod.exists,
    takePad_eq_some, takeNat_eq_some, takeN_eq_some, takeNul_eq_some, Option.ite_none_right_eq_some,
    Option.some.injEq, Prod.mk.injEq]
  constructor
  · rintro ⟨_, rfl, _, _, ⟨rfl, hn⟩, s, _, ⟨rfl, rfl⟩, _, rfl, hok, rfl, rfl⟩; exact ⟨s, rfl, hn, hok, rfl⟩
  · rintro ⟨s, rfl, hn, hok, rfl⟩
    exact ⟨_, rfl, _, _, ⟨rfl, hn⟩, s, _, ⟨rfl, rfl⟩, _, rfl, hok, rfl, rfl⟩

theorem decode_variant_eq_some :
    decode e (g + 1) d .variant off bs = some (v, r) ↔
      ∃ t v' r3, bs = UInt8.ofNat t.print.length :: (t.print ++ 0 ::
          (pad (off + (t.print.length + 2)) t.align ++ r3)) ∧
        (t.WF ∧ t.DepthLax ∧ t.print.length ≤ 255) ∧ d + 1 ≤ MAX_VALUE_DEPTH ∧
        decode e g (d + 1) t (off + (t.print.length + 2) + padLen (off + (t.print.length + 2)) t.align) r3
          = some (v', r) ∧ v = .variant t v' := by
  simp only [decode, Option.bind_eq_some_iff, Prod.exists, takeNat_one_eq_some, takeN_eq_some,
    takeNul_eq_some, variantType_eq_some, takePad_eq_some, Option.ite_none_left_eq_some, Nat.not_lt,
    Option.some.injEq, Prod.mk.injEq]
  constructor
  · rintro ⟨_, _, ⟨rfl, _⟩, _, _, ⟨rfl, rfl⟩, _, rfl, t, ⟨rfl, ht⟩, r3, rfl, hd, v', _, hdec, rfl, rfl⟩
    exact ⟨t, v', r3, rfl, ht, hd, hdec, rfl⟩
  · rintro ⟨t, v', r3, rfl, ht, hd, hdec, rfl⟩
    exact ⟨_, _, ⟨rfl, by omega⟩, _, _, ⟨rfl, rfl⟩, _, rfl, t, ⟨rfl, ht⟩, r3, rfl, hd, v', _, hdec, rfl, rfl⟩

theorem decode_array_eq_some {et : Ty} :
    decode e (g + 1) d (.array et) off bs = some (v, r) ↔
      ∃ body vs, bs = pad off 4 ++ (encNat e 4 body.length ++ (pad (off + padLen off 4 + 4) et.align ++
          (body ++ r))) ∧ body.length ≤ MAX_ARRAY_LENGTH ∧
        decodeElems e g (d + 1) et
          (off + padLen off 4 + 4 + padLen (off + padLen off 4 + 4) et.align) body = some vs ∧
        v = .array et vs := by
  simp only [decode, Option.bind_eq_some_iff, Prod.exists, takePad_eq_some, takeNat_eq_some, takeN_eq_some,
    Option.ite_none_left_eq_some, Nat.not_lt, Option.some.injEq, Prod.mk.injEq]
  constructor
  · rintro ⟨_, rfl, _, _, ⟨rfl, _⟩, _, rfl, hmax, body, _, ⟨rfl, rfl⟩, vs, hdec, rfl, rfl⟩
    exact ⟨body, vs, rfl, hmax, hdec, rfl⟩
  · rintro ⟨body, vs, rfl, hmax, hdec, rfl⟩
    exact ⟨_, rfl, _, _, ⟨rfl, Nat.lt_of_le_of_lt hmax (by decide)⟩, _, rfl, hmax, body, _, ⟨rfl, rfl⟩,
      vs, hdec, rfl, rfl⟩

theorem decode_struct_eq_some {ts : List Ty} :
    decode e (g + 1) d (.struct ts) off bs = some (v, r) ↔
      ts ≠ [] ∧ d + 1 ≤ MAX_VALUE_DEPTH ∧ ∃ vs r0, bs = pad off 8 ++ r0 ∧
        decodeFields e g (d + 1) ts (off + padLen off 8) r0 = some (vs, r) ∧ v = .struct vs := by
  simp only [decode, Option.bind_eq_some_iff, Prod.exists, takePad_eq_some, Option.ite_none_left_eq_some,
    List.isEmpty_iff, Nat.not_lt, Option.some.injEq, Prod.mk.injEq]
  constructor
  · rintro ⟨hne, _, rfl, hd, vs, _, hdec, rfl, rfl⟩; exact ⟨hne, hd, vs, _, rfl, hdec, rfl⟩
  · rintro ⟨hne, hd, vs, _, rfl, hdec, rfl⟩; exact ⟨hne, _, rfl, hd, vs, _, hdec, rfl, rfl⟩

theorem decode_dict_eq_some {k : BTy} {vt : Ty} :
    decode e (g + 1) d (.dict k vt) off bs = some (v, r) ↔
      ∃ body es, bs = pad off 4 ++ (encNat e 4 body.length ++ (pad (off + padLen off 4 + 4) 8 ++
          (body ++ r))) ∧ body.length ≤ MAX_ARRAY_LENGTH ∧
        decodeEntries e g (d + 2) k vt
          (off + padLen off 4 + 4 + padLen (off + padLen off 4 + 4) 8) body = some es ∧
        v = .dict k vt es := by
  simp only [decode, Option.bind_eq_some_iff, Prod.exists, takePad_eq_some, takeNat_eq_some, takeN_eq_some,
    Option.ite_none_left_eq_some, Nat.not_lt, Option.some.injEq, Prod.mk.injEq]
  constructor
  · rintro ⟨_, rfl, _, _, ⟨rfl, _⟩, _, rfl, hmax, body, _, ⟨rfl, rfl⟩, es, hdec, rfl, rfl⟩
    exact ⟨body, es, rfl, hmax, hdec, rfl⟩
  · rintro ⟨body, es, rfl, hmax, hdec, rfl⟩
    exact ⟨_, rfl, _, _, ⟨rfl, Nat.lt_of_le_of_lt hmax (by decide)⟩, _, rfl, hmax, body, _, ⟨rfl, rfl⟩,
      es, hdec, rfl, rfl⟩

end equations

/-! the decoder computes offsets from the length of what is left -/

theorem length_append_sub (x y : Bytes) : (x ++ y).length - y.length = x.length := by
  rw [List.length_append, Nat.add_sub_cancel]

theorem decode_iff (e : Endian) : ∀ (g : Nat),
    (∀ d t off bs v r, decode e g d t off bs = some (v, r) ↔
      bs = encode e off v ++ r ∧ WFVal e d off v t ∧ need v ≤ g) ∧
    (∀ d ts off bs vs r, decodeFields e g d ts off bs = some (vs, r) ↔
      bs = encodeList e off vs ++ r ∧ WFFields e d off vs ts ∧ needList vs ≤ g) ∧
    (∀ d t off body vs, decodeElems e g d t off body = some vs ↔
      body = encodeList e off vs ∧ WFElems e d off vs t ∧ needList vs ≤ g) ∧
    (∀ d kt vt off body es, decodeEntries e g d kt vt off body = some es ↔
      body = encodeEntries e off es ∧ WFEntries e d off es kt vt ∧ needEntries es ≤ g)
  | 0 => by
    refine ⟨?_, ?_, ?_, ?_⟩
    · intro d t off bs v r
      exact ⟨fun h => (by rw [decode] at h; cases h), fun h => absurd h.2.2 (Nat.not_le.2 (need_pos v))⟩
    · intro d ts off bs vs r
      exact ⟨fun h => (by rw [decodeFields] at h; cases h), fun h => absurd h.2.2 (Nat.not_le.2 (needList_pos vs))⟩
    · intro d t off body vs
      exact ⟨fun h => (by rw [decodeElems] at h; cases h), fun h => absurd h.2.2 (Nat.not_le.2 (needList_pos vs))⟩
    · intro d kt vt off body es
      exact ⟨fun h => (by rw [decodeEntries] at h; cases h),
        fun h => absurd h.2.2 (Nat.not_le.2 (needEntries_pos es))⟩
  | g + 1 => by
    obtain ⟨ihV, ihF, ihE, ihD⟩ := decode_iff e g
    refine ⟨?_, ?_, ?_, ?_⟩
    · intro d t off bs v r
      constructor
      · intro h
        cases t with
        | basic b =>
          cases hb : b.isFixed with
          | true =>
            obtain ⟨n, rfl, hn, hbool, rfl⟩ := (decode_fixed_eq_some hb).1 h
            exact ⟨(encode_fixed_append ..).symm,
              wfVal_fixed_iff.2 ⟨rfl, hb, hn, fun h => Nat.le_of_not_lt fun h' => hbool ⟨h, h'⟩⟩, Nat.le_add_left ..⟩
          | false =>
            by_cases hs : b = .sig
            · subst hs
              obtain ⟨s, rfl, hn, hok, rfl⟩ := decode_sig_eq_some.1 h
              exact ⟨(encode_sig_append ..).symm,
                wfVal_str_iff.2 ⟨rfl, hb, Nat.lt_trans hn (by decide), (stringOK_iff hb).1 hok⟩, Nat.le_add_left ..⟩
            · obtain ⟨s, rfl, hn, hok, rfl⟩ := (decode_str_eq_some hb hs).1 h
              exact ⟨(encode_str_append _ _ _ hs s).symm,
                wfVal_str_iff.2 ⟨rfl, hb, hn, (stringOK_iff hb).1 hok⟩, Nat.le_add_left ..⟩
        | variant =>
          obtain ⟨t, v', r3, rfl, ht, hd, hdec, rfl⟩ := decode_variant_eq_some.1 h
          obtain ⟨rfl, hw, hg⟩ := (ihV ..).1 hdec
          exact ⟨(encode_variant_append ..).symm, wfVal_variant_iff.2 ⟨rfl, ht.1, ht.2.1, ht.2.2, hd, hw⟩,
            Nat.succ_le_succ hg⟩
        | array et =>
          obtain ⟨body, vs, rfl, hmax, hdec, rfl⟩ := decode_array_eq_some.1 h
          obtain ⟨rfl, hw, hg⟩ := (ihE ..).1 hdec
          exact ⟨(encode_array_append ..).symm, wfVal_array_iff.2 ⟨rfl, hmax, hw⟩, Nat.succ_le_succ hg⟩
        | struct ts =>
          obtain ⟨hne, hd, vs, r0, rfl, hdec, rfl⟩ := decode_struct_eq_some.1 h
          obtain ⟨rfl, hw, hg⟩ := (ihF ..).1 hdec
          exact ⟨(encode_struct_append ..).symm, wfVal_struct_iff.2 ⟨ts, rfl, hne, hd, hw⟩, Nat.succ_le_succ hg⟩
        | dict k vt =>
          obtain ⟨body, es, rfl, hmax, hdec, rfl⟩ := decode_dict_eq_some.1 h
          obtain ⟨rfl, hw, hg⟩ := (ihD ..).1 hdec
          exact ⟨(encode_dict_append ..).symm, wfVal_dict_iff.2 ⟨rfl, hmax, hw⟩, Nat.succ_le_succ hg⟩
      · rintro ⟨rfl, hw, hg⟩
        cases v with
        | fixed b n =>
          obtain ⟨rfl, hb, hn, hbool⟩ := wfVal_fixed_iff.1 hw
          exact (decode_fixed_eq_some hb).2 ⟨n, encode_fixed_append .., hn,
            fun h => Nat.not_lt.2 (hbool h.1) h.2, rfl⟩
        | str b s =>
          obtain ⟨rfl, hb, hn, hspec⟩ := wfVal_str_iff.1 hw
          by_cases hs : b = .sig
          · subst hs
            exact decode_sig_eq_some.2 ⟨s, encode_sig_append ..,
              Nat.lt_succ_of_le (sigOK_length (hspec.2.2 rfl)), (stringOK_iff hb).2 hspec, rfl⟩
          · exact (decode_str_eq_some hb hs).2 ⟨s, encode_str_append _ _ _ hs s, hn,
              (stringOK_iff hb).2 hspec, rfl⟩
        | variant t v' =>
          obtain ⟨rfl, h1, h2, h3, hd, hv⟩ := wfVal_variant_iff.1 hw
          exact decode_variant_eq_some.2 ⟨t, v', _, encode_variant_append .., ⟨h1, h2, h3⟩, hd,
            (ihV ..).2 ⟨rfl, hv, Nat.le_of_succ_le_succ hg⟩, rfl⟩
        | array et vs =>
          obtain ⟨rfl, hmax, hv⟩ := wfVal_array_iff.1 hw
          exact decode_array_eq_some.2 ⟨_, vs, encode_array_append .., hmax,
            (ihE ..).2 ⟨rfl, hv, Nat.le_of_succ_le_succ hg⟩, rfl⟩
        | struct vs =>
          obtain ⟨ts, rfl, hne, hd, hv⟩ := wfVal_struct_iff.1 hw
          exact decode_struct_eq_some.2 ⟨hne, hd, vs, _, encode_struct_append ..,
            (ihF ..).2 ⟨rfl, hv, Nat.le_of_succ_le_succ hg⟩, rfl⟩
        | dict k vt es =>
          obtain ⟨rfl, hmax, hv⟩ := wfVal_dict_iff.1 hw
          exact decode_dict_eq_some.2 ⟨_, es, encode_dict_append .., hmax,
            (ihD ..).2 ⟨rfl, hv, Nat.le_of_succ_le_succ hg⟩, rfl⟩
    · intro d ts off bs vs r
      cases ts with
      | nil =>
        simp only [decodeFields, Option.some.injEq, Prod.mk.injEq]
        constructor
        · rintro ⟨rfl, rfl⟩; exact ⟨rfl, trivial, Nat.le_add_left ..⟩
        · rintro ⟨rfl, hw, _⟩
          obtain rfl := wfFields_nil_iff.1 hw
          exact ⟨rfl, rfl⟩
      | cons t ts =>
        constructor
        · intro h
          rw [decodeFields] at h
          obtain ⟨⟨v, r0⟩, h1, h⟩ := Option.bind_eq_some_iff.1 h
          obtain ⟨⟨vs', r'⟩, h2, h⟩ := Option.bind_eq_some_iff.1 h
          cases h
          obtain ⟨rfl, hwv, hgv⟩ := (ihV ..).1 h1
          rw [length_append_sub] at h2
          obtain ⟨rfl, hwf, hgf⟩ := (ihF ..).1 h2
          exact ⟨(encodeList_cons_append ..).symm, ⟨hwv, hwf⟩, Nat.succ_le_succ (Nat.max_le.2 ⟨hgv, hgf⟩)⟩
        · rintro ⟨rfl, hw, hg⟩
          obtain ⟨v, vs', rfl, hwv, hwf⟩ := wfFields_cons_iff.1 hw
          obtain ⟨hgv, hgf⟩ := Nat.max_le.1 (Nat.le_of_succ_le_succ hg)
          rw [decodeFields, encodeList_cons_append, (ihV ..).2 ⟨rfl, hwv, hgv⟩, Option.bind_some]
          simp only
          rw [length_append_sub, (ihF ..).2 ⟨rfl, hwf, hgf⟩, Option.bind_some]
    · intro d t off body vs
      cases body with
      | nil =>
        simp only [decodeElems, Option.some.injEq]
        constructor
        · rintro rfl; exact ⟨rfl, trivial, Nat.le_add_left ..⟩
        · rintro ⟨hb, hw, _⟩; exact (wfElems_eq_nil hw hb.symm).symm
      | cons b body =>
        constructor
        · intro h
          rw [decodeElems] at h
          obtain ⟨hd, h⟩ := Option.ite_none_left_eq_some.1 h
          obtain ⟨⟨v, r0⟩, h1, h⟩ := Option.bind_eq_some_iff.1 h
          obtain ⟨vs', h2, h⟩ := Option.bind_eq_some_iff.1 h
          cases h
          obtain ⟨hbs, hwv, hgv⟩ := (ihV ..).1 h1
          rw [hbs, length_append_sub] at h2
          obtain ⟨rfl, hwe, hge⟩ := (ihE ..).1 h2
          exact ⟨hbs, ⟨fun hf => Nat.le_of_not_lt fun hlt => hd ⟨hf, hlt⟩, hwv, hwe⟩,
            Nat.succ_le_succ (Nat.max_le.2 ⟨hgv, hge⟩)⟩
        · rintro ⟨hb, hw, hg⟩
          cases vs with
          | nil => cases hb
          | cons v vs' =>
            obtain ⟨hgv, hge⟩ := Nat.max_le.1 (Nat.le_of_succ_le_succ hg)
            rw [encodeList] at hb
            rw [decodeElems, if_neg (fun h => Nat.not_lt.2 (hw.1 h.1) h.2), (ihV ..).2 ⟨hb, hw.2.1, hgv⟩,
              Option.bind_some]
            simp only
            rw [hb, length_append_sub, (ihE ..).2 ⟨rfl, hw.2.2, hge⟩, Option.bind_some]
    · intro d kt vt off body es
      cases body with
      | nil =>
        simp only [decodeEntries, Option.some.injEq]
        constructor
        · rintro rfl; exact ⟨rfl, trivial, Nat.le_add_left ..⟩
        · rintro ⟨hb, hw, _⟩; exact (wfEntries_eq_nil hw hb.symm).symm
      | cons b body =>
        -- the offset after padding, key and value, as the decoder computes it from what is left
        have hoff : ∀ (k v : Val) (r2 : Bytes), off + ((pad off 8 ++ (encode e (off + padLen off 8) k ++
            (encode e (off + padLen off 8 + (encode e (off + padLen off 8) k).length) v ++ r2))).length - r2.length) =
            off + padLen off 8 + (encode e (off + padLen off 8) k).length +
              (encode e (off + padLen off 8 + (encode e (off + padLen off 8) k).length) v).length := by
          intro k v r2
          rw [← List.append_assoc, ← List.append_assoc, length_append_sub, List.length_append, List.length_append,
            pad_length, ← Nat.add_assoc, ← Nat.add_assoc]
        constructor
        · intro h
          rw [decodeEntries] at h
          obtain ⟨hd, h⟩ := Option.ite_none_left_eq_some.1 h
          obtain ⟨r0, h0, h⟩ := Option.bind_eq_some_iff.1 h
          obtain ⟨⟨k, r1⟩, h1, h⟩ := Option.bind_eq_some_iff.1 h
          obtain ⟨⟨v, r2⟩, h2, h⟩ := Option.bind_eq_some_iff.1 h
          obtain ⟨es', h3, h⟩ := Option.bind_eq_some_iff.1 h
          cases h
          obtain ⟨rfl, hwk, hgk⟩ := (ihV ..).1 h1
          rw [length_append_sub] at h2
          obtain ⟨rfl, hwv, hgv⟩ := (ihV ..).1 h2
          have hbs := takePad_eq_some.1 h0
          rw [hbs, hoff] at h3
          obtain ⟨rfl, hwe, hge⟩ := (ihD ..).1 h3
          exact ⟨hbs.trans (encodeEntries_cons ..).symm, ⟨Nat.le_of_not_lt hd, hwk, hwv, hwe⟩,
            Nat.succ_le_succ (Nat.max_le.2 ⟨Nat.max_le.2 ⟨hgk, hgv⟩, hge⟩)⟩
        · rintro ⟨hb, hw, hg⟩
          cases es with
          | nil => cases hb
          | cons kv es' =>
            obtain ⟨k, v⟩ := kv
            obtain ⟨hgkv, hge⟩ := Nat.max_le.1 (Nat.le_of_succ_le_succ hg)
            obtain ⟨hgk, hgv⟩ := Nat.max_le.1 hgkv
            have hbs := hb.trans (encodeEntries_cons ..)
            rw [decodeEntries, if_neg (Nat.not_lt.2 hw.1), takePad_eq_some.2 hbs, Option.bind_some,
              (ihV ..).2 ⟨rfl, hw.2.1, hgk⟩, Option.bind_some]
            simp only
            rw [length_append_sub, (ihV ..).2 ⟨rfl, hw.2.2.1, hgv⟩, Option.bind_some]
            simp only
            rw [hbs, hoff, (ihD ..).2 ⟨rfl, hw.2.2.2, hge⟩, Option.bind_some]

theorem decodeFields_eq_some {e : Endian} {g d : Nat} {ts : List Ty} {off : Nat} {bs : Bytes} {vs : List Val}
    {r : Bytes} :
    decodeFields e g d ts off bs = some (vs, r) ↔
      bs = encodeList e off vs ++ r ∧ WFFields e d off vs ts ∧ needList vs ≤ g :=
  (decode_iff e g).2.1 ..

variable (e : Endian)

theorem decode_sound : ∀ (g : Nat),
    (∀ d t off bs v r, decode e g d t off bs = some (v, r) →
      bs = encode e off v ++ r ∧ WFVal e d off v t) ∧
    (∀ d ts off bs vs r, decodeFields e g d ts off bs = some (vs, r) →
      bs = encodeList e off vs ++ r ∧ WFFields e d off vs ts) ∧
    (∀ d t off body vs, decodeElems e g d t off body = some vs →
      body = encodeList e off vs ∧ WFElems e d off vs t) ∧
    (∀ d kt vt off body es, decodeEntries e g d kt vt off body = some es →
      body = encodeEntries e off es ∧ WFEntries e d off es kt vt) :=
  fun g =>
    have ⟨hV, hF, hE, hD⟩ := decode_iff e g
    ⟨fun d t off bs v r h => have ⟨h1, h2, _⟩ := (hV d t off bs v r).1 h; ⟨h1, h2⟩,
     fun d ts off bs vs r h => have ⟨h1, h2, _⟩ := (hF d ts off bs vs r).1 h; ⟨h1, h2⟩,
     fun d t off body vs h => have ⟨h1, h2, _⟩ := (hE d t off body vs).1 h; ⟨h1, h2⟩,
     fun d kt vt off body es h => have ⟨h1, h2, _⟩ := (hD d kt vt off body es).1 h; ⟨h1, h2⟩⟩

theorem decode_complete : ∀ (v : Val) (t : Ty) (d off : Nat) (r : Bytes) (g : Nat),
    WFVal e d off v t → need v ≤ g → decode e g d t off (encode e off v ++ r) = some (v, r) :=
  fun v t d off r g hw hg => ((decode_iff e g).1 d t off _ v r).2 ⟨rfl, hw, hg⟩

theorem decodeElems_complete : ∀ (vs : List Val) (t : Ty) (d off : Nat) (g : Nat),
    WFElems e d off vs t → needList vs ≤ g →
    decodeElems e g d t off (encodeList e off vs) = some vs :=
  fun vs t d off g hw hg => ((decode_iff e g).2.2.1 d t off _ vs).2 ⟨rfl, hw, hg⟩

theorem decodeEntries_complete : ∀ (es : List (Val × Val)) (kt : BTy) (vt : Ty) (d off : Nat) (g : Nat),
    WFEntries e d off es kt vt → needEntries es ≤ g →
    decodeEntries e g d kt vt off (encodeEntries e off es) = some es :=
  fun es kt vt d off g hw hg => ((decode_iff e g).2.2.2 d kt vt off _ es).2 ⟨rfl, hw, hg⟩

end Dbus.Proofs.Wire
