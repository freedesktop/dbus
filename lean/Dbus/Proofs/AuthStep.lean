import Dbus.Proofs.AuthInv
import Dbus.Proofs.AuthMech
/-
  `Step` is proved once for each primitive move (an ERROR line, REJECTED, OK, a challenge) and carried up the call tree.
-/
namespace Dbus.Proofs.Auth
open Dbus.Model.Auth Dbus.Spec.Auth

/-- `allowed` is a row of the specification's table (`specAllows p c`), or the answers open to a mechanism (`mechReplies`);
    `counted`, `uncounted`: the failure count goes up, by one, exactly with a REJECTED line -/
structure Step (env : Env) (allowed : Kind → Phase → Bool) (s s' : S) (r : Bytes) : Prop where
  inv : Inv env s'
  out : s'.outgoing = s.outgoing ++ r
  counted : kindOf r = .rejected → r = rejectedLine env ∧ s'.failures = s.failures + 1
  uncounted : kindOf r ≠ .rejected → s'.failures = s.failures
  spec : allowed (kindOf r) s'.phase = true

variable {env : Env} {allowed : Kind → Phase → Bool} {s s' t : S} {r : Bytes}

theorem Step.mono {allowed' : Kind → Phase → Bool} (h : Step env allowed s s' r)
    (ha : ∀ k p, allowed k p = true → allowed' k p = true) : Step env allowed' s s' r :=
  { h with spec := ha _ _ h.spec }

/-- the handlers note `mech`, `identity`, `desired` in the state and answer from there (`t`): from `s` it is the same answer -/
theorem Step.source (h : Step env allowed t s' r) (ho : t.outgoing = s.outgoing) (hf : t.failures = s.failures) :
    Step env allowed s s' r :=
  ⟨h.inv, ho ▸ h.out, hf ▸ h.counted, hf ▸ h.uncounted, h.spec⟩

theorem Step.plain (hi : Inv env s') (ho : s'.outgoing = s.outgoing ++ r)
    (hf : s'.failures = s.failures) (hk : kindOf r ≠ .rejected) (hs : allowed (kindOf r) s'.phase = true) :
    Step env allowed s s' r :=
  ⟨hi, ho, fun h => absurd h hk, fun _ => hf, hs⟩

theorem Step.error (hi : Inv env s) {b : Bytes} (hk : kindOf b = .error) {p : Phase} (hp : s.phase = p)
    (hs : allowed .error p = true) : Step env allowed s (say s b) b :=
  .plain (hi.buffers _ _ _) rfl rfl (by rw [hk]; nofun) (hk ▸ hp ▸ hs)

theorem Step.silent {p : Phase} (hi : Inv env { s with phase := p }) (hs : allowed .none p = true) :
    Step env allowed s { s with phase := p } [] :=
  .plain hi (List.append_nil _).symm rfl nofun hs

theorem Step.ok (he : Established env s) (hc : s.cookieId.isSome → s.mech = some .cookie)
    (hf : s.failures < MAX_FAILURES) (hs : allowed .ok .waitingForBegin = true) :
    Step env allowed s (sendOk env s) (wOK ++ env.guid ++ crlf) :=
  .plain (.of_established he hc hf (.inl rfl)) rfl rfl nofun hs

theorem Step.rejected (hc : s.cookieId.isSome → s.mech = some .cookie) (hf : s.failures < MAX_FAILURES)
    (hs : ∀ p, rejectedTo p = true → allowed .rejected p = true) :
    Step env allowed s (sendRejected env s) (rejectedLine env) := by
  refine ⟨sendRejected_inv env hc hf, ?_, fun _ => ⟨rfl, ?_⟩, fun h => absurd rfl h, hs _ ?_⟩
  all_goals rw [sendRejected_eq]
  dsimp only; split <;> rfl

theorem or_inl {a b : Bool} (h : a = true) : (a || b) = true := by rw [h]; rfl

theorem mechReplies_rejected (p : Phase) (h : rejectedTo p = true) : mechReplies .rejected p = true := by
  simp [mechReplies, h]

theorem Step.challenge (hi : Inv env s') {d : Bytes} (ho : s'.outgoing = s.outgoing ++ dataLine d)
    (hf : s'.failures = s.failures) (hp : s'.phase = .waitingForData) :
    ∃ r, Step env mechReplies s s' r :=
  ⟨_, .plain hi ho hf (by rw [kindOf_dataLine]; nofun) (by rw [kindOf_dataLine, hp]; rfl)⟩

/-- what the invariant says of a state in which data is handed to mechanism `m`: straight after AUTH, or in
    WaitingForData -/
structure Entry (env : Env) (s : S) (m : Mech) : Prop where
  mech : s.mech = some m
  permitted : env.permits m.name = true
  authorized : s.authorized = {}
  fails : s.failures < MAX_FAILURES
  noted : (s.cookieId = none ∧ s.desired = {}) ∨
          (m = .cookie ∧ s.cookieId.isSome ∧ s.desired = { uid := some env.selfUid })

theorem Entry.afterAuth {m : Mech} (hi : Inv env s) (hph : s.phase = .waitingForAuth) (hp : env.permits m.name = true) :
    Entry env { s with mech := some m } m :=
  have ⟨a1, a2, _, a4, _⟩ := hi.auth hph
  ⟨rfl, hp, a1, hi.fails.2 (by rw [hph]; nofun), .inl ⟨a4, a2⟩⟩

theorem Entry.waiting (hi : Inv env s) (hph : s.phase = .waitingForData) : ∃ m, Entry env s m := by
  have hf := hi.fails.2 (by rw [hph]; nofun)
  obtain ⟨ha, ⟨hm, hp, _, hd, hc⟩ | ⟨hm, hp, hc, hd⟩⟩ := hi.data hph
  · exact ⟨_, hm, hp, ha, hf, .inl ⟨hc, hd⟩⟩
  · exact ⟨_, hm, hp, ha, hf, .inr ⟨rfl, hc, hd⟩⟩

theorem mechData_step (env : Env) (s : S) (m : Mech) (data : Bytes) (h : Entry env s m) :
    ∃ r, Step env mechReplies s (mechData env s m data) r := by
  let P (s' : S) : Prop := ∃ r, Step env mechReplies s s' r
  obtain ⟨hm, hp, ha, hf, hnoted⟩ := h
  have hc : s.cookieId.isSome → s.mech = some .cookie := by
    obtain ⟨h, _⟩ | ⟨h, _⟩ := hnoted
    · rw [h]; nofun
    · exact fun _ => h ▸ hm
  -- a mechanism rejects or accepts from `s` with other notes; for `Established` only `authorized` counts
  have rejected (i : Bytes) (d : Creds) (c : Bytes) (tp : List Choice) :
      P (sendRejected env { s with identity := i, desired := d, challenge := c, tape := tp }) :=
    ⟨_, (Step.rejected (s := { s with identity := i, desired := d, challenge := c, tape := tp }) hc hf
      mechReplies_rejected).source rfl rfl⟩
  have ok (i : Bytes) (d a : Creds) (he : Established env { s with authorized := a }) :
      P (sendOk env { s with identity := i, desired := d, authorized := a }) :=
    ⟨_, (Step.ok (s := { s with identity := i, desired := d, authorized := a }) he hc hf rfl).source rfl rfl⟩
  cases m with
  | external =>
    obtain ⟨hcid, hd⟩ | ⟨h, _⟩ := hnoted
    · refine externalData_cases (P := P) env s data (fun i d => rejected i d _ _) (fun i hi => ?_)
        fun i d a hadd hsome => ok i d a ?_
      · exact Step.challenge
          ⟨nofun, fun _ => ⟨ha, .inl ⟨hm, hp, hi, hd, hcid⟩⟩, nofun, hc, Nat.le_of_lt hf, fun _ => hf⟩ rfl rfl rfl
      · obtain ⟨u, hu⟩ := Option.isSome_iff_exists.mp hsome
        simp only [Established, hm]
        refine ⟨hp, u, hu, ?_⟩
        rw [hadd, ha, Creds.add_empty, ← hu]
    · cases h
  | cookie =>
    show P (cookieData env s data)
    unfold cookieData
    obtain ⟨hid, hd⟩ | ⟨_, hsome, hd⟩ := hnoted
    · simp only [hid]
      refine cookieFirst_cases (P := P) env s data (fun i d tp => rejected i d _ tp) fun i tp id c => ?_
      exact Step.challenge
        ⟨nofun, fun _ => ⟨ha, .inr ⟨hm, hp, rfl, by rw [hd]; rfl⟩⟩, nofun, fun _ => hm, Nat.le_of_lt hf, fun _ => hf⟩
        rfl rfl rfl
    · obtain ⟨id, hid⟩ := Option.isSome_iff_exists.mp hsome
      simp only [hid]
      refine cookieSecond_cases (P := P) env s id data (rejected _ _ _ _) fun _ _ _ => ok _ _ _ ?_
      simp only [Established, hm]
      refine ⟨hp, ?_⟩
      rw [ha, hd, Creds.add_empty, Creds.addPid_of_none _ rfl]
  | anonymous =>
    refine anonymousData_cases (P := P) env s data (rejected _ _ _ _) (ok _ _ _ ?_)
    simp only [Established, hm]
    refine ⟨hp, ?_⟩
    rw [ha, Creds.addPid_of_none _ rfl]

theorem processData_step (env : Env) (s : S) (m : Mech) (args : Bytes) (hi : Inv env s) (h : Entry env s m)
    (hs : ∀ k p, mechReplies k p = true → allowed k p = true) {p : Phase} (hph : s.phase = p)
    (he : allowed .error p = true) : ∃ r, Step env allowed s (processData env s m args) r := by
  unfold processData
  exact iteInduction (motive := fun s' => ∃ r, Step env allowed s s' r) (fun _ => ⟨_, .error hi rfl hph he⟩) fun _ =>
    (mechData_step env s m _ h).imp fun _ h => h.mono hs

theorem handleAuth_step (env : Env) (s : S) (args : Bytes) (hi : Inv env s) (hph : s.phase = .waitingForAuth) :
    ∃ r, Step env (specAllows .waitingForAuth .auth) s (handleAuth env s args) r := by
  have hf := hi.fails.2 (by rw [hph]; nofun)
  have hrej (p : Phase) (h : rejectedTo p = true) : specAllows .waitingForAuth .auth .rejected p = true :=
    or_inl (mechReplies_rejected p h)
  unfold handleAuth
  refine iteInduction (motive := fun s' => ∃ r, Step env _ s s' r) (fun _ => ⟨_, .rejected hi.cookie hf hrej⟩) fun _ => ?_
  dsimp only
  split
  · rename_i m hfm
    exact (processData_step (allowed := specAllows .waitingForAuth .auth) env { s with mech := some m } m _
      (hi.setMech hph _) (.afterAuth hi hph (findMech_permits hfm).1) (fun _ _ => or_inl) hph rfl).imp
      fun _ h => h.source rfl rfl
  · exact ⟨_, (Step.rejected (s := { s with mech := none }) (hi.setMech hph _).cookie hf hrej).source rfl rfl⟩

theorem waitingForAuth_step (env : Env) (s : S) (c : Cmd) (args : Bytes) (hi : Inv env s)
    (hph : s.phase = .waitingForAuth) :
    ∃ r, Step env (specAllows .waitingForAuth c) s (waitingForAuth env s c args) r := by
  have hf := hi.fails.2 (by rw [hph]; nofun)
  cases c
  case auth => exact handleAuth_step env s args hi hph
  case begin => exact ⟨_, .silent hi.disconnect rfl⟩
  case error => exact ⟨_, .rejected hi.cookie hf fun _ h => h⟩
  all_goals exact ⟨_, .error hi rfl hph rfl⟩

theorem waitingForData_step (env : Env) (s : S) (c : Cmd) (args : Bytes) (hi : Inv env s)
    (hph : s.phase = .waitingForData) :
    ∃ r, Step env (specAllows .waitingForData c) s (waitingForData env s c args) r := by
  have hf := hi.fails.2 (by rw [hph]; nofun)
  cases c
  case data =>
    obtain ⟨m, he⟩ := Entry.waiting hi hph
    unfold waitingForData
    simp only [he.mech]
    exact processData_step (allowed := specAllows .waitingForData .data) env s m args hi he (fun _ _ => or_inl) hph rfl
  case begin => exact ⟨_, .silent hi.disconnect rfl⟩
  case cancel => exact ⟨_, .rejected hi.cookie hf fun _ h => h⟩
  case error => exact ⟨_, .rejected hi.cookie hf fun _ h => h⟩
  all_goals exact ⟨_, .error hi rfl hph rfl⟩

theorem waitingForBegin_step (env : Env) (s : S) (c : Cmd) (args : Bytes) (hi : Inv env s)
    (hph : s.phase = .waitingForBegin) :
    ∃ r, Step env (specAllows .waitingForBegin c) s (waitingForBegin env s c args) r := by
  have hf := hi.fails.2 (by rw [hph]; nofun)
  have he := hi.begun (.inl hph)
  cases c
  case begin => exact ⟨_, .silent (.of_established he hi.cookie hf (.inr rfl)) rfl⟩
  case negotiateFd =>
    unfold waitingForBegin
    refine iteInduction (motive := fun s' => ∃ r, Step env _ s s' r) (fun _ => ⟨wAGREE, ?_⟩) fun _ => ⟨_, .error hi rfl hph rfl⟩
    exact .plain (.of_established he hi.cookie hf (.inl rfl)) rfl rfl nofun rfl
  case cancel => exact ⟨_, .rejected hi.cookie hf fun _ h => h⟩
  case error => exact ⟨_, .rejected hi.cookie hf fun _ h => h⟩
  all_goals exact ⟨_, .error hi rfl hph rfl⟩

/-- the specification has no commands that are not ASCII; such a line the server answers with an ERROR that changes
    nothing -/
def lineAllows (p : Phase) (line : Bytes) (k : Kind) (p' : Phase) : Bool :=
  if line.all isAscii then specAllows p (cmdOf (splitLine line).1) k p' else k = .error && p' = p

theorem lineAllows_ascii {line : Bytes} (ha : line.all isAscii = true) (p : Phase) :
    lineAllows p line = specAllows p (cmdOf (splitLine line).1) := by
  funext k p'; rw [lineAllows, if_pos ha]

theorem lineAllows_other {line : Bytes} (ha : line.all isAscii = false) {p p' : Phase} {k : Kind} :
    lineAllows p line k p' = true ↔ k = .error ∧ p' = p := by
  rw [lineAllows, ha]; simp

theorem handleLine_nonAscii (env : Env) (s : S) {line : Bytes} (ha : line.all isAscii = false) :
    handleLine env s line = say s errNonAscii := by
  rw [handleLine, ha]; rfl

theorem handleLine_end (env : Env) {s : S} (he : s.phase.isEnd = true) {line : Bytes} (ha : line.all isAscii = true) :
    handleLine env s line = s := by
  rw [handleLine, ha]
  generalize s.phase = p at he
  match p, he with
  | .authenticated, _ => rfl
  | .needDisconnect, _ => rfl

theorem handleLine_step (env : Env) (s : S) (line : Bytes) (hi : Inv env s) (hne : s.phase.isEnd = false) :
    ∃ r, Step env (lineAllows s.phase line) s (handleLine env s line) r := by
  cases ha : line.all isAscii
  · rw [handleLine_nonAscii env s ha]
    exact ⟨_, .error hi rfl rfl ((lineAllows_other ha).mpr ⟨rfl, rfl⟩)⟩
  · rw [handleLine, ha, lineAllows_ascii ha]
    cases hph : s.phase
    case waitingForAuth => exact waitingForAuth_step env s _ _ hi hph
    case waitingForData => exact waitingForData_step env s _ _ hi hph
    case waitingForBegin => exact waitingForBegin_step env s _ [] hi hph
    all_goals rw [hph] at hne; cases hne

/-- also in a phase at an end, which `handleLine_step` leaves out: there only a line that is not ASCII gets an answer -/
theorem handleLine_inv (env : Env) (s : S) (line : Bytes) (hi : Inv env s) : Inv env (handleLine env s line) := by
  cases hne : s.phase.isEnd
  · exact let ⟨_, h⟩ := handleLine_step env s line hi hne; h.inv
  · cases ha : line.all isAscii
    · exact handleLine_nonAscii env s ha ▸ hi.buffers _ _ _
    · exact (handleLine_end env hne ha).symm ▸ hi

theorem doWork_inv (env : Env) (fuel : Nat) (s : S) (hi : Inv env s) : Inv env (doWork env fuel s) := by
  -- the cases of `doWork`: no fuel; phase at an end; a buffer over its bound; no CRLF yet; a line
  fun_induction doWork env fuel s with
  | case3 => exact hi.disconnect
  | case5 fuel s _ _ eol _ _ ih => exact ih ((handleLine_inv env s _ hi).buffers _ _ _)
  | _ => exact hi

theorem run_inv (env : Env) (ops : List Op) : Inv env (run env ops) :=
  List.foldlRecOn ops (Op.apply env) (Inv.init env []) fun s ih op _ => by
    cases op with
    | feed bs => exact doWork_inv env _ _ (ih.buffers _ _ _)
    | drain n => exact doWork_inv env _ _ (ih.buffers _ _ _)
    | oracle t => exact ih.buffers _ _ _

end Dbus.Proofs.Auth
