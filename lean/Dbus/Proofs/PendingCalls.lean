import Dbus.Model.PendingCalls
namespace Dbus.Proofs.PC
open Dbus.Model.PC

/-- per-call invariant: a call in the table is neither completed nor cancelled; an uncompleted
    call has not been notified; no call is notified twice; a call cancelled before completion
    stays uncompleted -/
def CallOK (c : Call) : Prop :=
  (c.inTable = true → c.completed = none ∧ c.cancelled = false) ∧
  (c.completed = none → c.notified = 0) ∧ c.notified ≤ 1 ∧
  (c.cancelled = true → c.completed = none)

def Inv (st : State) : Prop := ∀ c ∈ st.calls, CallOK c

def sers (st : State) : List Nat := st.calls.map (·.serial)

def key (st : State) : List Nat × Nat × Option Nat := (sers st, st.nextSerial, st.failedSerial)

structure Quiet (st st' : State) : Prop where
  key : key st' = key st
  inv : Inv st → Inv st'

theorem Quiet.refl (st : State) : Quiet st st := ⟨rfl, id⟩

theorem Quiet.trans {a b c : State} (h₁ : Quiet a b) (h₂ : Quiet b c) : Quiet a c :=
  ⟨h₂.key.trans h₁.key, h₂.inv ∘ h₁.inv⟩

theorem Quiet.sers_eq {st st' : State} (q : Quiet st st') : sers st' = sers st := congrArg (·.1) q.key

theorem Quiet.next_eq {st st' : State} (q : Quiet st st') : st'.nextSerial = st.nextSerial := congrArg (·.2.1) q.key

theorem Quiet.failed_eq {st st' : State} (q : Quiet st st') : st'.failedSerial = st.failedSerial :=
  congrArg (·.2.2) q.key

theorem Quiet.frame {st st' : State} (hc : st'.calls = st.calls := by rfl)
    (hn : st'.nextSerial = st.nextSerial := by rfl) (hf : st'.failedSerial = st.failedSerial := by rfl) : Quiet st st' :=
  ⟨by simp only [PC.key, sers, hc, hn, hf], by unfold Inv; rw [hc]; exact id⟩

theorem mem_updCall {cs : List Call} {i : Nat} {f : Call → Call} {c' : Call}
    (h : c' ∈ updCall cs i f) : c' ∈ cs ∨ ∃ c, cs[i]? = some c ∧ c' = f c := by
  unfold updCall at h
  rw [List.mem_mapIdx] at h
  obtain ⟨j, hj, rfl⟩ := h
  by_cases hji : j = i
  · subst hji
    right
    exact ⟨cs[j], by simp [hj], by simp⟩
  · left
    simp [hji]

theorem updCall_sers (cs : List Call) (i : Nat) (f : Call → Call) (hf : ∀ c, (f c).serial = c.serial) :
    (updCall cs i f).map (·.serial) = cs.map (·.serial) := by
  unfold updCall
  apply List.ext_getElem
  · simp
  · intro j h1 h2
    simp only [List.getElem_map, List.getElem_mapIdx]
    split
    · exact hf _
    · rfl

theorem quiet_updCall (st : State) (i : Nat) (f : Call → Call) (hser : ∀ c, (f c).serial = c.serial)
    (hok : ∀ c, st.calls[i]? = some c → CallOK c → CallOK (f c)) :
    Quiet st { st with calls := updCall st.calls i f } := by
  constructor
  · exact congrArg (·, st.nextSerial, st.failedSerial) (updCall_sers st.calls i f hser)
  · intro h c' hc'
    rcases mem_updCall hc' with hm | ⟨c, hi, rfl⟩
    · exact h c' hm
    · exact hok c hi (h c (List.mem_of_getElem? hi))

theorem quiet_receive (st : State) (m : QMsg) : Quiet st (receive st m) := by
  have hq : Quiet st { st with incoming := st.incoming ++ [m] } := .frame
  unfold receive
  dsimp only
  split
  · exact hq
  · split
    · exact hq.trans (quiet_updCall _ _ _ (fun _ => rfl) (fun _ _ hc => hc))
    · exact hq

theorem key_complete (st : State) (i : Nat) (o : Outcome) : key (complete st i o) = key st :=
  congrArg (·, st.nextSerial, st.failedSerial) (updCall_sers st.calls i _ fun _ => rfl)

theorem quiet_complete (st : State) (i : Nat) (o : Outcome)
    (hopen : ∀ c, st.calls[i]? = some c → CallOK c → c.completed = none ∧ c.cancelled = false) :
    Quiet st (complete st i o) := by
  refine quiet_updCall st i _ (fun _ => rfl) ?_
  intro c hi hc
  obtain ⟨hnone, hcan⟩ := hopen c hi hc
  have hn0 : c.notified = 0 := hc.2.1 hnone
  refine ⟨nofun, nofun, ?_, by simp [hcan]⟩
  dsimp only
  split <;> omega

theorem quiet_sweep (st : State) : Quiet st (disconnectSweep st) := by
  constructor
  · simp only [disconnectSweep, PC.key, sers, List.map_map]
    congr 1
    apply List.map_congr_left
    intro c _
    simp only [Function.comp]
    split <;> rfl
  · unfold disconnectSweep Inv
    simp only [List.mem_map]
    rintro h c' ⟨c, hc, rfl⟩
    split
    · exact ⟨nofun, (h c hc).2⟩
    · exact h c hc

theorem quiet_settle (st : State) : Quiet st (settle st) := by
  unfold settle
  split
  · exact quiet_sweep st
  · exact .refl st

/-- the socket is read and the dispatch status looked at again -/
def refill (st : State) : State :=
  settle (if (st.wire.foldl receive { st with wire := [] }).peerClosed = true then
            { st.wire.foldl receive { st with wire := [] } with connected := false }
          else st.wire.foldl receive { st with wire := [] })

theorem quiet_refill (st : State) : Quiet st (refill st) := by
  have hread : Quiet st (st.wire.foldl receive { st with wire := [] }) :=
    List.foldlRecOn st.wire receive (motive := Quiet st) .frame fun s h m _ => h.trans (quiet_receive s m)
  unfold refill
  refine (hread.trans ?_).trans (quiet_settle _)
  split
  · exact .frame
  · exact .refl _

theorem findBySerial_some {cs : List Call} {s i : Nat} (h : findBySerial cs s = some i) :
    ∃ c, cs[i]? = some c ∧ c.inTable = true ∧ c.serial = s := by
  obtain ⟨hi, hp, _⟩ := List.findIdx?_eq_some_iff_getElem.1 h
  simp only [Bool.and_eq_true, beq_iff_eq] at hp
  exact ⟨cs[i], by simp [hi], hp.1, hp.2⟩

theorem quiet_dispatch (st : State) : Quiet st (dispatch st) := by
  unfold dispatch
  split
  · exact quiet_settle st
  · rename_i m rest _
    have hq : Quiet st { st with incoming := rest } := .frame
    refine .trans ?_ (quiet_settle _)
    split
    · rename_i i hf
      refine hq.trans (quiet_complete _ i _ ?_)
      -- the call found by serial is in the table, so by `CallOK` it is neither completed nor cancelled
      intro c hi hc
      split at hf
      · cases hf
      · obtain ⟨c', hi', htab, _⟩ := findBySerial_some hf
        cases hi.symm.trans hi'
        exact hc.1 htab
    · exact .frame

theorem quiet_fire (st : State) (i : Nat) : Quiet st (fire st i).1 := by
  unfold fire
  split
  · split
    · refine .trans ?_ (quiet_settle _)
      split
      · exact .trans .frame (quiet_updCall _ i _ (fun _ => rfl) (fun _ _ hc => hc))
      · exact quiet_updCall st i _ (fun _ => rfl) (fun _ _ hc => hc)
    · exact .refl st
  · exact .refl st

theorem quiet_cancel (st : State) (i : Nat) : Quiet st (cancel st i) := by
  refine quiet_updCall st i _ (fun _ => rfl) ?_
  intro c _ hc
  refine ⟨nofun, hc.2.1, hc.2.2.1, ?_⟩
  intro hcan
  simp only [Bool.or_eq_true, Option.isNone_iff_eq_none] at hcan
  exact hcan.elim hc.2.2.2 id

theorem inv_register {st st' : State} (h : Inv st) (s : Nat) (f n : Bool)
    (hc : st'.calls = st.calls ++ [{ serial := s, hasTimeout := f, timeoutArmed := f, timeoutLink := true,
                                     inTable := true, notify := n }]) : Inv (settle st') := by
  refine (quiet_settle st').inv fun c hm => ?_
  rcases List.mem_append.1 (hc ▸ hm) with hm | hm
  · exact h c hm
  · cases List.mem_singleton.1 hm
    exact ⟨fun _ => ⟨rfl, rfl⟩, fun _ => rfl, Nat.zero_le 1, fun _ => rfl⟩

theorem inv_sendPreset {st : State} (s : Nat) (f n : Bool) (h : Inv st) : Inv (sendPreset st s f n).1 := by
  unfold sendPreset
  split
  · exact h
  · exact inv_register h s f n rfl

def attempt (s : State) (i : Nat) (otherwise : Option State) : Option State :=
  match s.calls[i]? with
  | none => some s
  | some c =>
    if c.completed.isSome then some s
    else if c.cancelled then none
    else
    match removeFirst (fun m => m.rs == c.serial) s.incoming with
    | some (m, rest) => some (settle (complete { s with incoming := rest } i (outcomeOf m)))
    | none => otherwise

theorem block_eq (st : State) (i : Nat) :
    block st i = attempt st i (attempt (refill st) i
      (if !(refill st).connected then some (settle (complete (refill st) i .byDisconnectedError)) else none)) :=
  rfl

theorem quiet_attempt {s s' : State} {i : Nat} {o : Option State} (h : attempt s i o = some s')
    (ho : o = some s' → (∀ c, s.calls[i]? = some c → c.completed = none ∧ c.cancelled = false) → Quiet s s') :
    Quiet s s' := by
  unfold attempt at h
  split at h
  · cases h
    exact .refl s
  · rename_i c hc
    split at h
    · cases h
      exact .refl s
    · rename_i hcomp
      split at h
      · cases h
      · rename_i hcan
        have hopen : ∀ c', s.calls[i]? = some c' → c'.completed = none ∧ c'.cancelled = false := by
          intro c' hc'
          cases hc.symm.trans hc'
          exact ⟨by simpa using hcomp, by simpa using hcan⟩
        split at h
        · rename_i m rest _
          cases h
          exact (Quiet.trans .frame (quiet_complete { s with incoming := rest } i _
            fun c hc _ => hopen c hc)).trans (quiet_settle _)
        · exact ho h hopen

theorem quiet_block (st : State) (i : Nat) : Quiet st ((block st i).getD st) := by
  cases h : block st i with
  | none => exact .refl st
  | some s' =>
    rw [block_eq] at h
    refine quiet_attempt h fun h₂ _ => (quiet_refill st).trans (quiet_attempt h₂ fun h₃ hopen => ?_)
    split at h₃
    · cases h₃
      exact (quiet_complete _ i _ (fun c hc _ => hopen c hc)).trans (quiet_settle _)
    · cases h₃

theorem quiet_dispatchBlock (st : State) (i : Nat) : Quiet st (dispatchBlock st i).1 := by
  unfold dispatchBlock
  split
  · exact quiet_dispatch st
  · split
    · exact quiet_dispatch st
    · exact (quiet_dispatch st).trans (quiet_block _ i)

def sends : Ev → Bool
  | .send .. | .sendPreset .. | .sendFail | .retry .. => true
  | _ => false

theorem quiet_step (st : State) : ∀ ev, sends ev = false → Quiet st (step st ev)
  | .peer .., _ => .frame
  | .pump, _ => quiet_refill st
  | .dispatch, _ => quiet_dispatch st
  | .fire i, _ => quiet_fire st i
  | .cancel i, _ => quiet_cancel st i
  | .block i, _ => quiet_block st i
  | .dispatchBlock i, _ => quiet_dispatchBlock st i
  | .closePeer, _ => .frame

theorem inv_step (st : State) (ev : Ev) (h : Inv st) : Inv (step st ev) := by
  cases ev with
  | send f n =>
    show Inv (send st f n).1
    unfold send
    split
    · exact h
    · exact inv_register h _ f n rfl
  | sendPreset s f n => exact inv_sendPreset s f n h
  | sendFail =>
    show Inv (sendFail st).1
    unfold sendFail
    split <;> exact h
  | retry f n =>
    show Inv (retry st f n).1
    unfold retry
    split
    · exact inv_sendPreset (st := { st with failedSerial := none }) _ f n h
    · exact h
  | _ => exact (quiet_step st _ rfl).inv h

theorem key_refill (st : State) : key (refill st) = key st := (quiet_refill st).key

theorem key_conn (X : State) : key ({ X with connected := false } : State) = key X := rfl
theorem key_incoming (X : State) (l : List QMsg) : key ({ X with incoming := l } : State) = key X := rfl
theorem key_wire (X : State) : key ({ X with wire := [] } : State) = key X := rfl

/-- the invariant: every registered serial, and the serial a failed send has left on its message, was handed out by the
    counter before its present value, and they are pairwise distinct -/
structure SerInv (st : State) : Prop where
  pos : 1 ≤ st.nextSerial
  below : ∀ s ∈ sers st, s < st.nextSerial
  nodup : (sers st).Nodup
  failed : ∀ s, st.failedSerial = some s → s < st.nextSerial ∧ s ∉ sers st

/-- covers both `send` (the serial is the old counter) and `retry` (it is the one the failed message kept) -/
theorem SerInv.register {st : State} (h : SerInv st) (c : Call) (n' : Nat) (fs' : Option Nat)
    (hn : st.nextSerial ≤ n') (hc : c.serial < n') (hfresh : c.serial ∉ sers st)
    (hfs : ∀ s, fs' = some s → st.failedSerial = some s ∧ s ≠ c.serial) :
    SerInv { st with nextSerial := n', failedSerial := fs', calls := st.calls ++ [c] } := by
  have hs : ∀ s, s ∈ sers { st with nextSerial := n', failedSerial := fs', calls := st.calls ++ [c] } ↔
      s ∈ sers st ∨ s = c.serial := by simp [sers]
  refine ⟨Nat.le_trans h.pos hn, ?_, ?_, ?_⟩
  · intro s hm
    rcases (hs s).1 hm with hm | rfl
    · exact Nat.lt_of_lt_of_le (h.below s hm) hn
    · exact hc
  · show (List.map (·.serial) (st.calls ++ [c])).Nodup
    simp only [List.map_append, List.map_cons, List.map_nil, List.nodup_append, List.mem_singleton]
    exact ⟨h.nodup, by simp, fun a ha b hb hab => hfresh (hb ▸ hab ▸ ha)⟩
  · intro s hfail
    obtain ⟨hold, hne⟩ := hfs s hfail
    obtain ⟨hlt, hnm⟩ := h.failed s hold
    exact ⟨Nat.lt_of_lt_of_le hlt hn, fun hm => ((hs s).1 hm).elim hnm hne⟩

/-- a history in which the application never sets a serial itself -/
def noPreset : Ev → Bool
  | .sendPreset _ _ _ => false
  | _ => true

/-- how many serials an event takes from the counter (at most) -/
def takes : Ev → Nat
  | .send _ _ => 1
  | .sendFail => 1
  | _ => 0

theorem nextSerial_nowrap {n : Nat} (h : n + 1 < SERIAL_MOD) : nextSerial n = (n, n + 1) := by
  unfold nextSerial
  simp only [Nat.mod_eq_of_lt h]
  simp

/-- one step of a counter modulo `M` that skips 0; `nextSerial` has `M = SERIAL_MOD` -/
theorem succ_skip_zero (M n : Nat) (hn : n < M) :
    (if (n + 1) % M = 0 then 1 else (n + 1) % M) = n % (M - 1) + 1 := by
  by_cases h : n + 1 = M
  · subst h
    simp
  · have hlt : n + 1 < M := Nat.lt_of_le_of_ne hn h
    rw [Nat.mod_eq_of_lt hlt, Nat.mod_eq_of_lt (Nat.lt_sub_of_add_lt hlt), if_neg (Nat.succ_ne_zero n)]

theorem SerInv.step_quiet {st st' : State} (h : SerInv st) (q : Quiet st st') {k : Nat} (hk : st.nextSerial ≤ k) :
    SerInv st' ∧ st'.nextSerial ≤ k :=
  ⟨⟨q.next_eq ▸ h.pos, q.sers_eq ▸ q.next_eq ▸ h.below, q.sers_eq ▸ h.nodup,
    q.sers_eq ▸ q.next_eq ▸ q.failed_eq ▸ h.failed⟩, q.next_eq ▸ hk⟩

theorem serInv_step (st : State) (ev : Ev) (h : SerInv st) (hp : noPreset ev = true) (hw : st.nextSerial + takes ev < SERIAL_MOD) :
    SerInv (step st ev) ∧ (step st ev).nextSerial ≤ st.nextSerial + takes ev := by
  cases ev with
  | send f n =>
    simp only [step, send]
    split
    · exact ⟨h, Nat.le_add_right _ _⟩
    · rw [nextSerial_nowrap hw]
      refine (h.register _ (st.nextSerial + 1) st.failedSerial (Nat.le_succ _) (Nat.lt_succ_self _) ?_ ?_).step_quiet
        (quiet_settle _) (Nat.le_refl _)
      · exact fun hm => Nat.lt_irrefl _ (h.below _ hm)
      · exact fun s hs => ⟨hs, Nat.ne_of_lt (h.failed s hs).1⟩
  | sendPreset s f n => cases hp
  | sendFail =>
    simp only [step, sendFail]
    split
    · exact ⟨h, Nat.le_add_right _ _⟩
    · rw [nextSerial_nowrap hw]
      refine ⟨⟨Nat.le_succ_of_le h.pos, fun s hs => Nat.lt_succ_of_lt (h.below s hs), h.nodup, ?_⟩, Nat.le_refl _⟩
      rintro s ⟨⟩
      exact ⟨Nat.lt_succ_self _, fun hm => Nat.lt_irrefl _ (h.below _ hm)⟩
  | retry f n =>
    simp only [step, retry]
    split
    · rename_i s hfs
      unfold sendPreset
      split
      · exact ⟨⟨h.pos, h.below, h.nodup, nofun⟩, Nat.le_add_right _ _⟩
      · obtain ⟨hlt, hnm⟩ := h.failed s hfs
        exact (h.register _ st.nextSerial none (Nat.le_refl _) hlt hnm nofun).step_quiet (quiet_settle _)
          (Nat.le_add_right _ _)
    · exact ⟨h, Nat.le_add_right _ _⟩
  | _ => exact h.step_quiet (quiet_step st _ rfl) (Nat.le_add_right _ _)

def totalTakes (h : List Ev) : Nat := (h.map takes).sum

theorem serInv_foldl : ∀ (h : List Ev) (st : State), SerInv st → (∀ ev ∈ h, noPreset ev = true) →
    st.nextSerial + totalTakes h < SERIAL_MOD → SerInv (h.foldl step st)
  | [], _, hs, _, _ => hs
  | ev :: evs, st, hs, hp, hw => by
    have hw' : st.nextSerial + takes ev + totalTakes evs < SERIAL_MOD := by
      rw [Nat.add_assoc]
      exact hw
    obtain ⟨h1, h2⟩ := serInv_step st ev hs (hp ev List.mem_cons_self) (Nat.lt_of_le_of_lt (Nat.le_add_right _ _) hw')
    exact serInv_foldl evs _ h1 (fun e he => hp e (List.mem_cons_of_mem _ he))
      (Nat.lt_of_le_of_lt (Nat.add_le_add_right h2 _) hw')

end Dbus.Proofs.PC
