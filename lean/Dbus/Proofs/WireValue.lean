import Dbus.Proofs.WirePrim
namespace Dbus.Proofs.Wire
open Dbus.Spec

section length
variable (e : Endian) (off : Nat)

theorem encode_fixed_length (b : BTy) (n : Nat) :
    (encode e off (.fixed b n)).length = padLen off b.align + b.size := by
  simp only [encode, List.length_append, pad_length, encNat_length]

theorem encode_str_length (b : BTy) (s : Bytes) :
    (encode e off (.str b s)).length =
      if b = .sig then s.length + 2 else padLen off 4 + (4 + (s.length + 1)) := by
  simp only [encode]
  split <;> simp only [List.length_append, List.length_cons, List.length_nil, pad_length, encNat_length]

theorem encode_variant_length (t : Ty) (v : Val) :
    (encode e off (.variant t v)).length =
      (t.print.length + 2) + (padLen (off + (t.print.length + 2)) t.align +
        (encode e (off + (t.print.length + 2) + padLen (off + (t.print.length + 2)) t.align) v).length) := by
  simp only [encode, List.length_append, List.length_cons, List.length_nil, pad_length]

theorem encode_array_length (et : Ty) (vs : List Val) :
    (encode e off (.array et vs)).length = padLen off 4 + (4 + (padLen (off + padLen off 4 + 4) et.align +
      (encodeList e (off + padLen off 4 + 4 + padLen (off + padLen off 4 + 4) et.align) vs).length)) := by
  simp only [encode, List.length_append, pad_length, encNat_length]

theorem encode_struct_length (vs : List Val) :
    (encode e off (.struct vs)).length = padLen off 8 + (encodeList e (off + padLen off 8) vs).length := by
  simp only [encode, List.length_append, pad_length]

theorem encode_dict_length (k : BTy) (vt : Ty) (es : List (Val × Val)) :
    (encode e off (.dict k vt es)).length = padLen off 4 + (4 + (padLen (off + padLen off 4 + 4) 8 +
      (encodeEntries e (off + padLen off 4 + 4 + padLen (off + padLen off 4 + 4) 8) es).length)) := by
  simp only [encode, List.length_append, pad_length, encNat_length]

end length

/-! the bytes in the shape the decoder consumes them: piece after piece, with whatever follows
    the value at the end -/
section stream
variable (e : Endian) (off : Nat) (r : Bytes)

theorem encode_fixed_append (b : BTy) (n : Nat) :
    encode e off (.fixed b n) ++ r = pad off b.align ++ (encNat e b.size n ++ r) := by
  rw [encode, List.append_assoc]

theorem encode_sig_append (s : Bytes) :
    encode e off (.str .sig s) ++ r = UInt8.ofNat s.length :: (s ++ 0 :: r) := by
  simp [encode]

theorem encode_str_append {b : BTy} (hb : b ≠ .sig) (s : Bytes) :
    encode e off (.str b s) ++ r = pad off 4 ++ (encNat e 4 s.length ++ (s ++ 0 :: r)) := by
  simp [encode, hb]

theorem encode_variant_append (t : Ty) (v : Val) :
    encode e off (.variant t v) ++ r =
      UInt8.ofNat t.print.length :: (t.print ++ 0 :: (pad (off + (t.print.length + 2)) t.align ++
        (encode e (off + (t.print.length + 2) + padLen (off + (t.print.length + 2)) t.align) v ++ r))) := by
  simp [encode, Nat.add_assoc]

theorem encode_array_append (et : Ty) (vs : List Val) :
    encode e off (.array et vs) ++ r =
      pad off 4 ++ (encNat e 4 (encodeList e (off + padLen off 4 + 4 + padLen (off + padLen off 4 + 4) et.align) vs).length ++
        (pad (off + padLen off 4 + 4) et.align ++
          (encodeList e (off + padLen off 4 + 4 + padLen (off + padLen off 4 + 4) et.align) vs ++ r))) := by
  simp only [encode, List.append_assoc]

theorem encode_struct_append (vs : List Val) :
    encode e off (.struct vs) ++ r = pad off 8 ++ (encodeList e (off + padLen off 8) vs ++ r) := by
  rw [encode, List.append_assoc]

theorem encode_dict_append (k : BTy) (vt : Ty) (es : List (Val × Val)) :
    encode e off (.dict k vt es) ++ r =
      pad off 4 ++ (encNat e 4 (encodeEntries e (off + padLen off 4 + 4 + padLen (off + padLen off 4 + 4) 8) es).length ++
        (pad (off + padLen off 4 + 4) 8 ++
          (encodeEntries e (off + padLen off 4 + 4 + padLen (off + padLen off 4 + 4) 8) es ++ r))) := by
  simp only [encode, List.append_assoc]

theorem encodeList_cons_append (v : Val) (vs : List Val) :
    encodeList e off (v :: vs) ++ r =
      encode e off v ++ (encodeList e (off + (encode e off v).length) vs ++ r) := by
  rw [encodeList, List.append_assoc]

theorem encodeEntries_cons (k v : Val) (es : List (Val × Val)) :
    encodeEntries e off ((k, v) :: es) =
      pad off 8 ++ (encode e (off + padLen off 8) k ++
        (encode e (off + padLen off 8 + (encode e (off + padLen off 8) k).length) v ++
          encodeEntries e (off + padLen off 8 + (encode e (off + padLen off 8) k).length +
            (encode e (off + padLen off 8 + (encode e (off + padLen off 8) k).length) v).length) es)) := by
  simp only [encodeEntries]

end stream

section wf
variable {e : Endian} {d off : Nat} {t : Ty}

theorem wfVal_fixed_iff {b : BTy} {n : Nat} :
    WFVal e d off (.fixed b n) t ↔
      t = .basic b ∧ b.isFixed = true ∧ n < 256 ^ b.size ∧ (b = .bool → n ≤ 1) := by
  cases t with
  | basic b' => exact ⟨fun h => ⟨h.1 ▸ rfl, h.2⟩, fun h => ⟨(Ty.basic.inj h.1).symm, h.2⟩⟩
  | _ => exact ⟨fun h => h.elim, fun h => nomatch h.1⟩

theorem wfVal_str_iff {b : BTy} {s : Bytes} :
    WFVal e d off (.str b s) t ↔ t = .basic b ∧ b.isFixed = false ∧ s.length < 2 ^ 32 ∧
      (b = .str → SpecUtf8 s) ∧ (b = .path → SpecPath s) ∧ (b = .sig → SigOK s) := by
  cases t with
  | basic b' => exact ⟨fun h => ⟨h.1 ▸ rfl, h.2⟩, fun h => ⟨(Ty.basic.inj h.1).symm, h.2⟩⟩
  | _ => exact ⟨fun h => h.elim, fun h => nomatch h.1⟩

theorem wfVal_variant_iff {t' : Ty} {v : Val} :
    WFVal e d off (.variant t' v) t ↔ t = .variant ∧ t'.WF ∧ t'.DepthLax ∧ t'.print.length ≤ 255 ∧
      d + 1 ≤ MAX_VALUE_DEPTH ∧
      WFVal e (d + 1) (off + (t'.print.length + 2) + padLen (off + (t'.print.length + 2)) t'.align) v t' := by
  cases t with
  | variant => exact ⟨fun h => ⟨rfl, h⟩, fun h => h.2⟩
  | _ => exact ⟨fun h => h.elim, fun h => nomatch h.1⟩

theorem wfVal_array_iff {et : Ty} {vs : List Val} :
    WFVal e d off (.array et vs) t ↔ t = .array et ∧
      (encodeList e (off + padLen off 4 + 4 + padLen (off + padLen off 4 + 4) et.align) vs).length
        ≤ MAX_ARRAY_LENGTH ∧
      WFElems e (d + 1) (off + padLen off 4 + 4 + padLen (off + padLen off 4 + 4) et.align) vs et := by
  cases t with
  | array et' => exact ⟨fun h => ⟨h.1 ▸ rfl, h.2⟩, fun h => ⟨(Ty.array.inj h.1).symm, h.2⟩⟩
  | _ => exact ⟨fun h => h.elim, fun h => nomatch h.1⟩

theorem wfVal_struct_iff {vs : List Val} :
    WFVal e d off (.struct vs) t ↔ ∃ ts, t = .struct ts ∧ ts ≠ [] ∧ d + 1 ≤ MAX_VALUE_DEPTH ∧
      WFFields e (d + 1) (off + padLen off 8) vs ts := by
  cases t with
  | struct ts => exact ⟨fun h => ⟨ts, rfl, h⟩, fun ⟨_, h1, h⟩ => Ty.struct.inj h1 ▸ h⟩
  | _ => exact ⟨fun h => h.elim, fun ⟨_, h, _⟩ => nomatch h⟩

theorem wfVal_dict_iff {k : BTy} {vt : Ty} {es : List (Val × Val)} :
    WFVal e d off (.dict k vt es) t ↔ t = .dict k vt ∧
      (encodeEntries e (off + padLen off 4 + 4 + padLen (off + padLen off 4 + 4) 8) es).length
        ≤ MAX_ARRAY_LENGTH ∧
      WFEntries e (d + 2) (off + padLen off 4 + 4 + padLen (off + padLen off 4 + 4) 8) es k vt := by
  cases t with
  | dict k' vt' =>
    exact ⟨fun h => ⟨h.1 ▸ h.2.1 ▸ rfl, h.2.2⟩,
      fun h => ⟨(Ty.dict.inj h.1).1.symm, (Ty.dict.inj h.1).2.symm, h.2⟩⟩
  | _ => exact ⟨fun h => h.elim, fun h => nomatch h.1⟩

theorem wfFields_nil_iff {vs : List Val} : WFFields e d off vs [] ↔ vs = [] := by
  cases vs with
  | nil => exact ⟨fun _ => rfl, fun _ => trivial⟩
  | cons => exact ⟨fun h => h.elim, nofun⟩

theorem wfFields_cons_iff {vs : List Val} {ts : List Ty} :
    WFFields e d off vs (t :: ts) ↔ ∃ v vs', vs = v :: vs' ∧ WFVal e d off v t ∧
      WFFields e d (off + (encode e off v).length) vs' ts := by
  cases vs with
  | nil => exact ⟨fun h => h.elim, fun ⟨_, _, h, _⟩ => nomatch h⟩
  | cons v vs' => exact ⟨fun h => ⟨v, vs', rfl, h⟩, fun ⟨_, _, h1, h⟩ => by cases h1; exact h⟩

end wf

theorem size_pos_of_fixed (b : BTy) (h : b.isFixed = true) : 1 ≤ b.size := by
  revert h; cases b <;> decide

/-- the decoder ends an array where its body is used up, so no element may be empty; the bound on
    the fuel counts bytes too -/
theorem encode_pos (e : Endian) : ∀ (v : Val) (t : Ty) (d off : Nat), WFVal e d off v t → 1 ≤ (encode e off v).length
  | .fixed b n, _, _, off, h => by
    rw [encode_fixed_length]
    exact Nat.le_add_left_of_le (size_pos_of_fixed b (wfVal_fixed_iff.1 h).2.1)
  | .str b s, _, _, off, _ => by
    rw [encode_str_length]
    split
    · exact Nat.le_add_left 1 _
    · exact Nat.le_add_left_of_le (Nat.le_add_left_of_le (Nat.le_add_left 1 _))
  | .variant t v, _, _, off, _ => by
    rw [encode_variant_length]
    exact Nat.le_add_right_of_le (Nat.le_add_left 1 _)
  | .array et vs, _, _, off, _ => by
    rw [encode_array_length]
    exact Nat.le_add_left_of_le (Nat.le_add_right_of_le (by decide))
  | .dict k vt es, _, _, off, _ => by
    rw [encode_dict_length]
    exact Nat.le_add_left_of_le (Nat.le_add_right_of_le (by decide))
  | .struct vs, _, d, off, h => by
    obtain ⟨ts, _, hne, _, hf⟩ := wfVal_struct_iff.1 h
    match vs, ts, hf with
    | v :: vs, t :: ts, hf =>
      rw [encode_struct_length, encodeList, List.length_append]
      exact Nat.le_add_left_of_le (Nat.le_add_right_of_le (encode_pos e v t _ _ hf.1))
    | [], [], _ => exact absurd rfl hne

theorem wfElems_eq_nil {e : Endian} {d off : Nat} {vs : List Val} {t : Ty} (hw : WFElems e d off vs t)
    (h : encodeList e off vs = []) : vs = [] := by
  cases vs with
  | nil => rfl
  | cons v vs =>
    rw [encodeList] at h
    have := encode_pos e v t d off hw.2.1
    rw [(List.append_eq_nil_iff.1 h).1] at this
    cases this

theorem wfEntries_eq_nil {e : Endian} {d off : Nat} {es : List (Val × Val)} {kt : BTy} {vt : Ty}
    (hw : WFEntries e d off es kt vt) (h : encodeEntries e off es = []) : es = [] := by
  cases es with
  | nil => rfl
  | cons kv es =>
    obtain ⟨k, v⟩ := kv
    rw [encodeEntries_cons] at h
    have := encode_pos e k _ d _ hw.2.1
    rw [(List.append_eq_nil_iff.1 (List.append_eq_nil_iff.1 h).2).1] at this
    cases this

end Dbus.Proofs.Wire
