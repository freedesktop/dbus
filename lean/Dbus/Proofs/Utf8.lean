import Dbus.Spec.Utf8
import Dbus.Model.Utf8
/-
  The form with `n` continuation bytes has a lead byte of tag `leadTag n` with `leadRoom n` values of the bits below the
  tag: what the encoder, UTF8_LENGTH and UTF8_COMPUTE say about a form is stated with these two and looked up by `n`.
-/
namespace Dbus.Proofs
open Dbus.Spec Dbus.Model

theorem eq_ofNat_iff (b : UInt8) {n : Nat} (h : n < 256) : b = UInt8.ofNat n ↔ b.toNat = n :=
  ⟨fun e => e ▸ UInt8.toNat_ofNat_of_lt' h, fun e => e ▸ UInt8.ofNat_toNat.symm⟩

def contBytes (c : Nat) : Nat → Bytes
  | 0 => []
  | n + 1 => UInt8.ofNat (0x80 + c / 64 ^ n % 64) :: contBytes c n

theorem length_contBytes (c n : Nat) : (contBytes c n).length = n := by
  induction n with
  | zero => rfl
  | succ n ih => simp [contBytes, ih]

theorem tag_add_mod {t r b : Nat} (h : t ≤ b ∧ b < t + r) (hd : t % r = 0) :
    b = t + b % r ∧ b % r < r := by
  obtain ⟨x, rfl⟩ := Nat.exists_eq_add_of_le h.1
  have hx : x < r := Nat.lt_of_add_lt_add_left h.2
  rw [Nat.add_mod, hd, Nat.zero_add, Nat.mod_mod, Nat.mod_eq_of_lt hx]
  exact ⟨rfl, hx⟩

theorem utf8Get_eq_some (a v : Nat) (cs : Bytes) :
    utf8Get a cs = some v ↔ cs = contBytes v cs.length ∧ v / 64 ^ cs.length = a := by
  induction cs generalizing a with
  | nil => simp [utf8Get, contBytes, eq_comm]
  | cons c cs ih =>
    have hx : v / 64 ^ (cs.length + 1) = v / 64 ^ cs.length / 64 := by
      rw [Nat.pow_succ, Nat.div_div_eq_div_mul]
    simp only [utf8Get, List.length_cons, contBytes, List.cons.injEq, hx]
    clear hx
    generalize v / 64 ^ cs.length = x at ih ⊢
    have hm : x % 64 < 64 := Nat.mod_lt _ (by decide)
    rw [eq_ofNat_iff c (show 0x80 + x % 64 < 256 by omega), and_right_comm]
    by_cases hc : 128 ≤ c.toNat ∧ c.toNat < 192
    · -- a continuation byte is 0x80 plus a digit `d`, and `x = a * 64 + d` says that `d` is the
      -- last digit of `x` and `a` the rest
      obtain ⟨hcd, hd⟩ := tag_add_mod (r := 64) hc rfl
      generalize c.toNat % 64 = d at hcd hd ⊢
      have key : x = a * 64 + d ↔ d = x % 64 ∧ x / 64 = a := by
        rw [and_comm, @eq_comm _ d, Nat.div_mod_unique (by decide), and_iff_left hd, Nat.mul_comm,
          Nat.add_comm, eq_comm]
      rw [if_pos hc, ih, hcd, Nat.add_left_cancel_iff, key, and_comm]
    · rw [if_neg hc]
      constructor
      · intro h; cases h
      · rintro ⟨⟨hc', _⟩, _⟩
        exact absurd ⟨hc' ▸ Nat.le_add_right _ _, hc' ▸ Nat.add_lt_add_left hm _⟩ hc

theorem unicodeValid_iff (c : Nat) : unicodeValid c = true ↔ IsScalar c := by
  simp only [unicodeValid, IsScalar, Bool.and_eq_true, decide_eq_true_eq, Bool.not_eq_true',
    beq_eq_false_iff_ne]
  omega

/-- the loop's shortcut for ASCII is the general case with no continuation byte -/
theorem validateUtf8_cons (b : UInt8) (rest : Bytes) :
    validateUtf8 (b :: rest) =
      if b.toNat = 0 then false
      else if (utf8Lead b.toNat).1 = 0 then false
      else if rest.length + 1 < (utf8Lead b.toNat).1 then false
      else match utf8Get (b.toNat % ((utf8Lead b.toNat).2 + 1)) (rest.take ((utf8Lead b.toNat).1 - 1)) with
        | none => false
        | some v =>
          if utf8Length v ≠ (utf8Lead b.toNat).1 then false
          else if !unicodeValid v then false
          else validateUtf8 (rest.drop ((utf8Lead b.toNat).1 - 1)) := by
  conv => lhs; rw [validateUtf8]
  by_cases h1 : b.toNat < 128
  · have hl : utf8Lead b.toNat = (1, 0x7f) := by rw [utf8Lead, if_pos h1]
    have hu : unicodeValid b.toNat = true := (unicodeValid_iff _).2 ⟨by omega, by omega⟩
    simp [hl, utf8Get, Nat.mod_eq_of_lt h1, utf8Length, h1, hu]
  · rw [if_neg h1]; rfl

def leadTag : Nat → Nat
  | 0 => 0
  | 1 => 0xC0
  | 2 => 0xE0
  | _ => 0xF0

def leadRoom : Nat → Nat
  | 0 => 128
  | 1 => 32
  | 2 => 16
  | _ => 8

theorem lead_forms {P : Nat → Nat → Nat → Prop} (h0 : P 0 0 128) (h1 : P 1 0xC0 32)
    (h2 : P 2 0xE0 16) (h3 : P 3 0xF0 8) : ∀ n, n < 4 → P n (leadTag n) (leadRoom n)
  | 0, _ => h0
  | 1, _ => h1
  | 2, _ => h2
  | 3, _ => h3

theorem lead_lt {n x : Nat} (hn : n < 4) : x < leadRoom n → leadTag n + x < 256 := by
  refine lead_forms (P := fun _ t r => x < r → t + x < 256) ?_ ?_ ?_ ?_ n hn <;> omega

/-- `64 ^ n * leadRoom n` is the threshold below which UTF8_LENGTH and the encoder choose
    form `n` -/
theorem utf8_form (c : Nat) (hc : c < 0x200000) : ∃ n, n < 4 ∧ utf8Length c = n + 1 ∧
    c / 64 ^ n < leadRoom n ∧ (leadTag n + c / 64 ^ n = 0 ↔ c = 0) ∧
    utf8Encode c = UInt8.ofNat (leadTag n + c / 64 ^ n) :: contBytes c n := by
  unfold utf8Length
  fun_cases utf8Encode c with
  | case1 h1 =>
    exact ⟨0, by decide, if_pos h1, by simpa [leadRoom] using h1, by simp [leadTag],
      by simp [leadTag, contBytes]⟩
  | case2 h1 h2 =>
    exact ⟨1, by decide, by rw [if_neg h1, if_pos h2], Nat.div_lt_of_lt_mul h2,
      by simp [leadTag]; omega, by simp [leadTag, contBytes]⟩
  | case3 h1 h2 h3 =>
    exact ⟨2, by decide, by rw [if_neg h1, if_neg h2, if_pos h3], Nat.div_lt_of_lt_mul h3,
      by simp [leadTag]; omega, by simp [leadTag, contBytes]⟩
  | case4 h1 h2 h3 =>
    exact ⟨3, by decide, by rw [if_neg h1, if_neg h2, if_neg h3, if_pos hc],
      Nat.div_lt_of_lt_mul hc, by simp [leadTag]; omega, by simp [leadTag, contBytes]⟩

theorem utf8Lead_iff {b n x : Nat} (hn : n < 4) :
    (utf8Lead b).1 = n + 1 ∧ b % ((utf8Lead b).2 + 1) = x ↔ b = leadTag n + x ∧ x < leadRoom n := by
  -- the length names the row
  have fwd : ∀ b, (utf8Lead b).1 = n + 1 →
      b = leadTag n + b % ((utf8Lead b).2 + 1) ∧ b % ((utf8Lead b).2 + 1) < leadRoom n := by
    intro b
    fun_cases utf8Lead b <;> intro hl <;> cases hl
    · next h => exact tag_add_mod ⟨Nat.zero_le b, by rwa [leadTag, Nat.zero_add]⟩ rfl
    · next h => exact tag_add_mod h rfl
    · next h => exact tag_add_mod h rfl
    · next h => exact tag_add_mod h rfl
    · exact absurd hn (by decide)
    · exact absurd hn (by decide)
  constructor
  · rintro ⟨hl, rfl⟩
    exact fwd b hl
  · -- the tag gives the length, and then the payload is as in `fwd`
    rintro ⟨rfl, hx⟩
    have hl : (utf8Lead (leadTag n + x)).1 = n + 1 := by
      refine lead_forms (P := fun n t r => ∀ x, x < r → (utf8Lead (t + x)).1 = n + 1)
        ?_ ?_ ?_ ?_ n hn x hx
      all_goals intro x hx; unfold utf8Lead
      · rw [Nat.zero_add, if_pos hx]
      · rw [if_neg (by omega), if_pos (by omega)]
      · rw [if_neg (by omega), if_neg (by omega), if_pos (by omega)]
      · rw [if_neg (by omega), if_neg (by omega), if_neg (by omega), if_pos (by omega)]
    exact ⟨hl, (Nat.add_left_cancel (fwd _ hl).1).symm⟩

theorem validateUtf8_encode (c : Nat) (rest : Bytes) (h0 : c ≠ 0) (hs : IsScalar c) :
    validateUtf8 (utf8Encode c ++ rest) = validateUtf8 rest := by
  obtain ⟨n, hn4, hl, hx, hz, he⟩ := utf8_form c (by have := hs.1; omega)
  obtain ⟨hn, ha⟩ := (utf8Lead_iff hn4).2 ⟨rfl, hx⟩
  have hlen := length_contBytes c n
  rw [he, List.cons_append, validateUtf8_cons, UInt8.toNat_ofNat_of_lt' (lead_lt hn4 hx),
    if_neg (mt hz.1 h0), hn, ha, if_neg (Nat.succ_ne_zero n), if_neg (by simp [hlen]),
    Nat.add_sub_cancel, List.take_left' hlen,
    (utf8Get_eq_some _ _ _).2 ⟨by rw [hlen], by rw [hlen]⟩]
  simp only
  rw [if_neg (by simpa using hl), if_neg (by simp [(unicodeValid_iff c).2 hs]), List.drop_left' hlen]

theorem validateUtf8_step (b : UInt8) (rest : Bytes) (h : validateUtf8 (b :: rest) = true) :
    ∃ c rest', c ≠ 0 ∧ IsScalar c ∧ b :: rest = utf8Encode c ++ rest' ∧
      rest'.length ≤ rest.length ∧ validateUtf8 rest' = true := by
  rw [validateUtf8_cons] at h
  simp only [Bool.if_false_left, Bool.and_eq_true, Bool.not_eq_true', decide_eq_false_iff_not] at h
  obtain ⟨h0, -, hshort, h⟩ := h
  cases hg : utf8Get (b.toNat % ((utf8Lead b.toNat).2 + 1)) (rest.take ((utf8Lead b.toNat).1 - 1)) with
  | none => rw [hg] at h; cases h
  | some v =>
    simp only [hg, Bool.and_eq_true, Bool.not_eq_true', decide_eq_false_iff_not, Decidable.not_not,
      Bool.not_eq_false] at h
    obtain ⟨hl, hv, hr⟩ := h
    obtain ⟨hcs, ha⟩ := (utf8Get_eq_some _ _ _).1 hg
    rw [List.length_take_of_le (by omega)] at hcs ha
    have hs := (unicodeValid_iff v).1 hv
    obtain ⟨n, hn4, hl', -, hz, he⟩ := utf8_form v (by have := hs.1; omega)
    have hn : (utf8Lead b.toNat).1 = n + 1 := hl.symm.trans hl'
    rw [hn, Nat.add_sub_cancel] at hcs ha hr
    obtain ⟨hb, -⟩ := (utf8Lead_iff hn4).1 ⟨hn, ha.symm⟩
    refine ⟨v, rest.drop n, fun hv0 => h0 (hb.trans (hz.2 hv0)), hs, ?_,
      by rw [List.length_drop]; exact Nat.sub_le .., hr⟩
    rw [he, ← hb, UInt8.ofNat_toNat, List.cons_append, ← hcs, List.take_append_drop]

theorem validateUtf8_complete (cps : List Nat) (h : ∀ c ∈ cps, c ≠ 0 ∧ IsScalar c) :
    validateUtf8 (cps.flatMap utf8Encode) = true := by
  induction cps with
  | nil => simp [validateUtf8]
  | cons c cps ih =>
    rw [List.flatMap_cons, validateUtf8_encode c _ (h c (by simp)).1 (h c (by simp)).2]
    exact ih (fun c' hc' => h c' (by simp [hc']))

theorem validateUtf8_sound : ∀ bs : Bytes, validateUtf8 bs = true → SpecUtf8 bs
  | [], _ => ⟨[], by simp, rfl⟩
  | b :: rest, h => by
    obtain ⟨c, rest', hc0, hcs, heq, hlen, hv⟩ := validateUtf8_step b rest h
    obtain ⟨cps, hcps, hr⟩ := validateUtf8_sound rest' hv
    exact ⟨c :: cps, List.forall_mem_cons.2 ⟨⟨hc0, hcs⟩, hcps⟩, by rw [heq, hr]; rfl⟩
termination_by bs => bs.length
decreasing_by exact Nat.lt_succ_of_le hlen

end Dbus.Proofs
