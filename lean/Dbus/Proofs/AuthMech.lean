import Dbus.Proofs.AuthReplies
/-
  A handler may rewrite what it keeps between lines (identity, desired, challenge, tape), and then it rejects, asks for
  more, or accepts: these are the branches of each cases rule.
-/
namespace Dbus.Proofs.Auth
open Dbus.Model Dbus.Model.Auth

theorem add_none {α : Type} (x : Option α) : (if x.isSome then x else none) = x := by
  cases x <;> rfl

theorem add_of_wild {α : Type} {x y : Option α} (z : Option α) (h : y = none ∨ y = x) :
    (if x.isSome then x else if y.isSome then y else z) = if x.isSome then x else z := by
  cases x with
  | some _ => rfl
  | none => rcases h with rfl | rfl <;> rfl

theorem Creds.add_empty (o : Creds) : ({} : Creds).add o = o := by
  simp only [Creds.add, add_none]

theorem Creds.addPid_of_none {c : Creds} (o : Creds) (h : c.pid = none) : c.addPid o = { c with pid := o.pid } := by
  simp only [Creds.addPid, h, add_none]

theorem Creds.add_of_superset (a : Creds) {d sock : Creds} (h : sock.superset d = true) (hu : ¬d.anonymous = true) :
    (((a.add d).addPid sock).addGids sock).addLabel sock = a.add sock ∧ sock.uid.isSome := by
  simp only [Creds.superset, Bool.and_eq_true, Bool.or_eq_true, Option.isNone_iff_eq_none, beq_iff_eq] at h
  obtain ⟨⟨⟨hp, hu'⟩, hg⟩, hl⟩ := h
  have hu : d.uid.isSome := by
    cases h : d.uid with
    | none => exact absurd (by simp [Creds.anonymous, h]) hu
    | some _ => rfl
  have huid : d.uid = sock.uid := hu'.resolve_left fun h => by rw [h] at hu; cases hu
  refine ⟨?_, huid ▸ hu⟩
  simp only [Creds.add, Creds.addPid, Creds.addGids, Creds.addLabel, add_of_wild _ hp, add_of_wild _ hg,
    add_of_wild _ hl, huid]

/-- `i` in `ask` and `a` in `ok` are variables with an equation, since the body has compound terms there that are equal
    to them only by hypothesis.

    The bodies of the mechanisms are taken apart with `iteInduction` and `cases`, one condition at a time: `split` goes
    through the whole remaining body at every level, which for these nested record updates is far slower to check. -/
theorem externalData_cases {P : S → Prop} (env : Env) (s : S) (data : Bytes)
    (rejected : ∀ i d, P (sendRejected env { s with identity := i, desired := d }))
    (ask : ∀ i, i = [] →
      P { s with identity := i, outgoing := s.outgoing ++ dataLine [], asked := true, phase := .waitingForData })
    (ok : ∀ i d a, a = s.authorized.add env.sock → env.sock.uid.isSome →
      P (sendOk env { s with identity := i, desired := d, authorized := a })) :
    P (externalData env s data) := by
  -- once `desired` is set: it must name a user, and the socket's credentials must cover it
  have verdict (i : Bytes) (d : Creds) : P (
      if d.anonymous then sendRejected env { s with identity := i, desired := d }
      else if env.sock.superset d then
        sendOk env { s with identity := i, desired := d, authorized :=
          (((s.authorized.add d).addPid env.sock).addGids env.sock).addLabel env.sock }
      else sendRejected env { s with identity := i, desired := d }) :=
    iteInduction (fun _ => rejected _ _) fun hu => iteInduction
      (fun hs => ok _ _ _ (Creds.add_of_superset _ hs hu).1 (Creds.add_of_superset s.authorized hs hu).2) fun _ => rejected _ _
  unfold externalData
  rw [withIdentity_eq]
  refine iteInduction (fun _ => rejected _ _) fun _ => ?_
  refine iteInduction (fun _ => rejected _ _) fun _ => ?_
  refine iteInduction (fun h => ask _ h.1) fun _ => ?_
  -- the identity to check is the socket's own, or the number the peer gave
  refine iteInduction (fun _ => verdict _ _) fun _ => ?_
  generalize env.parseNumber _ = n
  cases n with
  | none => exact rejected _ _
  | some n => exact verdict _ _

theorem cookieFirst_cases {P : S → Prop} (env : Env) (s : S) (data : Bytes)
    (rejected : ∀ i d tp, P (sendRejected env { s with challenge := [], identity := i, desired := d, tape := tp }))
    (challenge : ∀ i tp id c,
      P { say { s with identity := i, desired := { s.desired with uid := some env.selfUid }, tape := tp,
                       cookieId := some id, challenge := c }
            (dataLine (env.context ++ [SP] ++ decimal id ++ [SP] ++ c)) with phase := .waitingForData }) :
    P (cookieFirst env s data) := by
  unfold cookieFirst
  simp only [withIdentity_eq, sendData_eq]
  refine iteInduction (fun _ => rejected _ _ _) fun _ => ?_
  generalize env.userOf data = u
  cases u with
  | none => exact rejected _ _ _
  | some u =>
    refine iteInduction (fun _ => rejected _ _ _) fun hu => ?_
    obtain rfl := Decidable.not_not.mp hu
    generalize s.tape = tape
    cases tape with
    | nil => exact rejected _ _ _
    | cons ch rest =>
      refine iteInduction (fun _ => rejected _ _ _) fun _ => ?_
      generalize ch.cookie = c
      cases c with
      | none => exact rejected _ _ _
      | some id => exact challenge _ _ _ _

theorem anonymousData_cases {P : S → Prop} (env : Env) (s : S) (data : Bytes) (rejected : P (sendRejected env s))
    (ok : P (sendOk env { s with desired := {}, authorized := s.authorized.addPid env.sock })) :
    P (anonymousData env s data) :=
  iteInduction (fun _ => rejected) fun _ => ok

theorem correctHash_ne_nil {env : Env} {id : Nat} {sc cc : Bytes} (h : correctHash env id sc cc ≠ []) :
    ∃ secret, env.cookies.lookup id = some secret ∧
      correctHash env id sc cc = hexEncode (Sha1.sha1 (sc ++ [COLON] ++ cc ++ [COLON] ++ secret)) := by
  unfold correctHash at h ⊢
  cases hl : env.cookies.lookup id with
  | none => simp [hl] at h
  | some secret =>
    refine ⟨secret, rfl, ?_⟩
    by_cases hs : secret = []
    · simp [hl, hs] at h
    · simp [hs]

/-- the response is "client-challenge hash"; the hash has to be the hex SHA-1 of `challenge:client-challenge:cookie`
    for the cookie whose id was sent -/
theorem cookieSecond_cases {P : S → Prop} (env : Env) (s : S) (id : Nat) (data : Bytes)
    (rejected : P (sendRejected env s))
    (ok : ∀ secret, env.cookies.lookup id = some secret →
      (data.dropWhile (fun b => !isBlank b)).dropWhile isBlank =
        hexEncode (Sha1.sha1 (s.challenge ++ [COLON] ++ data.takeWhile (fun b => !isBlank b) ++ [COLON] ++ secret)) →
      P (sendOk env { s with authorized := (s.authorized.add s.desired).addPid env.sock })) :
    P (cookieSecond env s id data) := by
  unfold cookieSecond
  refine iteInduction (fun _ => rejected) fun _ => ?_
  refine iteInduction (fun _ => rejected) fun _ => ?_
  refine iteInduction (fun _ => rejected) fun hne => ?_
  refine iteInduction (fun _ => rejected) fun heq => ?_
  obtain ⟨secret, hl, hc⟩ := correctHash_ne_nil hne
  exact ok secret hl (hc ▸ Decidable.not_not.mp heq)

theorem findMech_permits {env : Env} {name : Bytes} {m : Mech} (h : findMech env name = some m) :
    env.permits m.name = true ∧ m.name = name := by
  unfold findMech at h
  split at h
  · rename_i hp
    have := List.find?_some h
    simp at this
    exact ⟨by rw [this]; exact hp, this⟩
  · cases h

end Dbus.Proofs.Auth
