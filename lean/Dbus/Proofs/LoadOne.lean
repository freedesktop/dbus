import Dbus.Proofs.WireFuel
import Dbus.Proofs.EditWF
/-
  The header is decoded from the whole buffer, as the reference does; `frameOf_append` and `headerVals_append` show that
  what follows the message has no say in it.
-/
namespace Dbus.Proofs.Loader
open Dbus.Spec Dbus.Model Dbus.Proofs.Wire Dbus.Proofs.Message

theorem fuelFor_mono {a b : Nat} (h : a ≤ b) : fuelFor a ≤ fuelFor b := by unfold fuelFor; omega

theorem header_bytes (e : Endian) (n0 n1 n2 n3 n4 n5 : Nat) (fv : List Val) :
    encodeList e 0 (headerList n0 n1 n2 n3 n4 n5 fv) =
      [UInt8.ofNat n0, UInt8.ofNat n1, UInt8.ofNat n2, UInt8.ofNat n3] ++ (encNat e 4 n4 ++ (encNat e 4 n5 ++
        (encNat e 4 (encodeList e 16 fv).length ++ encodeList e 16 fv))) := by
  simp [encodeList, encode, pad, padLen, BTy.align, BTy.size, BTy.fixedSize, Ty.align, encNat_length,
    encNat_one, UInt8.ofNat_mod_size']

theorem header_length (e : Endian) (n0 n1 n2 n3 n4 n5 : Nat) (fv : List Val) :
    (encodeList e 0 (headerList n0 n1 n2 n3 n4 n5 fv)).length = 16 + (encodeList e 16 fv).length := by
  simp only [header_bytes, List.length_append, List.length_cons, List.length_nil, encNat_length]
  omega

theorem fixedHeader_reads (e : Endian) (b0 b1 b2 b3 : UInt8) (n4 n5 L : Nat) (X : Bytes)
    (h4 : n4 < 256 ^ 4) (hL : L < 256 ^ 4) :
    decNat e ((([b0, b1, b2, b3] ++ (encNat e 4 n4 ++ (encNat e 4 n5 ++ (encNat e 4 L ++ X)))).drop 4).take 4) = n4 ∧
    decNat e ((([b0, b1, b2, b3] ++ (encNat e 4 n4 ++ (encNat e 4 n5 ++ (encNat e 4 L ++ X)))).drop 12).take 4) = L := by
  have hl := fun n => encNat_length e 4 n
  have h0 : [b0, b1, b2, b3].length = 4 := rfl
  constructor
  · rw [List.drop_left' h0, List.take_left' (hl _), decNat_encNat _ _ _ h4]
  · rw [show 12 = 4 + (4 + 4) from rfl, ← List.drop_drop, ← List.drop_drop, List.drop_left' h0,
      List.drop_left' (hl _), List.drop_left' (hl _), List.take_left' (hl _), decNat_encNat _ _ _ hL]

theorem endianOfByte_eq_some {b : UInt8} {e : Endian} : endianOfByte b = some e ↔ b = e.toByte := by
  unfold endianOfByte
  constructor
  · intro h
    split at h
    · cases h; assumption
    · split at h
      · cases h; assumption
      · cases h
  · rintro rfl; cases e <;> rfl

theorem frameCore_cases {mx len : Nat} {g : Frame} {P : FrameResult → Prop}
    (corrupt : mx < g.falen ∨ mx < g.blen ∨ mx < g.total → P .corrupt)
    (incomplete : g.falen ≤ mx → g.blen ≤ mx → g.total ≤ mx → len < g.total → P .incomplete)
    (framed : g.falen ≤ mx → g.blen ≤ mx → g.total ≤ mx → g.total ≤ len → P (.framed g)) :
    P (frameCore mx len g) := by
  unfold frameCore
  refine iteInduction (fun h => corrupt (.inl h)) fun h1 => iteInduction (fun h => corrupt (.inr (.inl h))) fun h2 =>
    iteInduction (fun h => corrupt (.inr (.inr h))) fun h3 => iteInduction (fun h => ?_) fun h4 => ?_
  · exact incomplete (Nat.le_of_not_lt h1) (Nat.le_of_not_lt h2) (Nat.le_of_not_lt h3) h
  · exact framed (Nat.le_of_not_lt h1) (Nat.le_of_not_lt h2) (Nat.le_of_not_lt h3) (Nat.le_of_not_lt h4)

theorem frameCore_eq_framed {mx len : Nat} {g f : Frame} :
    frameCore mx len g = .framed f ↔
      g = f ∧ g.falen ≤ mx ∧ g.blen ≤ mx ∧ g.total ≤ mx ∧ g.total ≤ len :=
  ⟨frameCore_cases (P := fun r => r = .framed f → _) (fun _ => nofun) (fun _ _ _ _ => nofun)
      fun h1 h2 h3 h4 h => ⟨FrameResult.framed.inj h, h1, h2, h3, h4⟩,
    fun ⟨hg, h1, h2, h3, h4⟩ => hg ▸ frameCore_cases (P := (· = .framed g)) (fun h => by omega)
      (fun _ _ _ h => by omega) fun _ _ _ _ => rfl⟩

theorem frameCore_eq_corrupt {mx len : Nat} {g : Frame} :
    frameCore mx len g = .corrupt ↔ mx < g.falen ∨ mx < g.blen ∨ mx < g.total :=
  ⟨frameCore_cases (P := fun r => r = .corrupt → _) (fun h _ => h) (fun _ _ _ _ => nofun) (fun _ _ _ _ => nofun),
    fun h => frameCore_cases (P := (· = .corrupt)) (fun _ => rfl) (fun _ _ _ _ => by omega) fun _ _ _ _ => by omega⟩

theorem frameCore_len {mx len len' : Nat} {g : Frame} (hle : len ≤ len')
    (h : frameCore mx len g ≠ .incomplete) : frameCore mx len' g = frameCore mx len g := by
  cases hr : frameCore mx len g with
  | incomplete => exact absurd hr h
  | corrupt => exact frameCore_eq_corrupt.2 (frameCore_eq_corrupt.1 hr)
  | framed f =>
    obtain ⟨hg, h1, h2, h3, h4⟩ := frameCore_eq_framed.1 hr
    exact frameCore_eq_framed.2 ⟨hg, h1, h2, h3, Nat.le_trans h4 hle⟩

theorem frameOf_framed {mx : Nat} {bs : Bytes} {f : Frame} (h : frameOf mx bs = .framed f) :
    16 ≤ bs.length ∧ endianOfByte (bs.getD 0 0) = some f.e ∧
      f.falen = decNat f.e ((bs.drop 12).take 4) ∧ f.blen = decNat f.e ((bs.drop 4).take 4) ∧
      f.total ≤ bs.length ∧ f.total ≤ mx ∧ f.falen ≤ mx ∧ f.blen ≤ mx := by
  unfold frameOf at h
  split at h
  · cases h
  rename_i hl
  split at h
  · cases h
  rename_i e he
  obtain ⟨rfl, h1, h2, h3, h4⟩ := frameCore_eq_framed.1 h
  exact ⟨Nat.le_of_not_lt hl, he, rfl, rfl, h4, h3, h1, h2⟩

theorem hlen_ge (f : Frame) : 16 + f.falen ≤ f.hlen := le_align8 _

theorem hlen_sub (f : Frame) : f.hlen - (16 + f.falen) = padLen (16 + f.falen) 8 :=
  Nat.add_sub_cancel_left (n := 16 + f.falen) (m := padLen (16 + f.falen) 8)

theorem headerPadding_length {f : Frame} {bs : Bytes} (h : f.total ≤ bs.length) :
    (headerPadding f bs).length = padLen (16 + f.falen) 8 := by
  have h1 := hlen_sub f
  have h2 := hlen_ge f
  rw [headerPadding, List.length_take, List.length_drop, h1]
  unfold Frame.total at h
  omega

theorem bodyBytes_length {f : Frame} {bs : Bytes} (h : f.total ≤ bs.length) :
    (bodyBytes f bs).length = f.blen := by
  rw [bodyBytes, List.length_take, List.length_drop]
  unfold Frame.total at h
  omega

theorem frameOf_headerList (mx : Nat) (e : Endian) {n0 n1 n2 n3 n4 n5 : Nat} (fv : List Val) (r : Bytes)
    (h0 : UInt8.ofNat n0 = e.toByte) (h4 : n4 < 256 ^ 4) (hL : (encodeList e 16 fv).length < 256 ^ 4) :
    frameOf mx (encodeList e 0 (headerList n0 n1 n2 n3 n4 n5 fv) ++ r) =
      frameCore mx (encodeList e 0 (headerList n0 n1 n2 n3 n4 n5 fv) ++ r).length
        { e := e, falen := (encodeList e 16 fv).length, blen := n4 } := by
  have hlen : ¬ (encodeList e 0 (headerList n0 n1 n2 n3 n4 n5 fv) ++ r).length < 16 := by
    rw [List.length_append, header_length]; omega
  have hbs : encodeList e 0 (headerList n0 n1 n2 n3 n4 n5 fv) ++ r =
      [UInt8.ofNat n0, UInt8.ofNat n1, UInt8.ofNat n2, UInt8.ofNat n3] ++ (encNat e 4 n4 ++
        (encNat e 4 n5 ++ (encNat e 4 (encodeList e 16 fv).length ++ (encodeList e 16 fv ++ r)))) := by
    rw [header_bytes, List.append_assoc, List.append_assoc, List.append_assoc, List.append_assoc]
  obtain ⟨r4, rL⟩ := fixedHeader_reads e (UInt8.ofNat n0) (UInt8.ofNat n1) (UInt8.ofNat n2) (UInt8.ofNat n3)
    n4 n5 _ (encodeList e 16 fv ++ r) h4 hL
  rw [← hbs] at r4 rL
  have hmark : endianOfByte ((encodeList e 0 (headerList n0 n1 n2 n3 n4 n5 fv) ++ r).getD 0 0) = some e := by
    rw [hbs]
    exact endianOfByte_eq_some.2 h0
  rw [frameOf, if_neg hlen, hmark]
  simp only
  rw [r4, rL]

theorem frame_of_header {mx : Nat} {bs : Bytes} {f : Frame} (hf : frameOf mx bs = .framed f)
    {n0 n1 n2 n3 n4 n5 : Nat} {fv : List Val} {r : Bytes}
    (hbs : bs = encodeList f.e 0 (headerList n0 n1 n2 n3 n4 n5 fv) ++ r)
    (hwf : WFFields f.e 0 0 (headerList n0 n1 n2 n3 n4 n5 fv) headerTypes) :
    n0 = f.e.toByte.toNat ∧ f.blen = n4 ∧ f.falen = (encodeList f.e 16 fv).length := by
  obtain ⟨h0, _, _, _, h4, _, hL, _⟩ := (headerList_wf_iff ..).1 hwf
  have hb0 : UInt8.ofNat n0 = f.e.toByte :=
    endianOfByte_eq_some.1 (by rw [← (frameOf_framed hf).2.1, hbs, header_bytes]; rfl)
  rw [hbs, frameOf_headerList mx f.e fv r hb0 h4 (Nat.lt_of_le_of_lt hL (by decide))] at hf
  have hfe := (frameCore_eq_framed.1 hf).1
  exact ⟨by rw [← hb0, UInt8.toNat_ofNat_of_lt' h0], (congrArg Frame.blen hfe).symm, (congrArg Frame.falen hfe).symm⟩

theorem headerVals_eq_some {f : Frame} {bs : Bytes} {mt fl ver ser : Nat} {fv : List Val} :
    headerVals f bs = some (mt, fl, ver, ser, fv) ↔
      ∃ n0 bl r, bs = encodeList f.e 0 (headerList n0 mt fl ver bl ser fv) ++ r ∧
        WFFields f.e 0 0 (headerList n0 mt fl ver bl ser fv) headerTypes := by
  unfold headerVals
  constructor
  · intro h
    split at h
    · rename_i hd
      cases h
      obtain ⟨hbs, hwf⟩ := (decodeFields_iff ..).1 hd
      -- the seven values have the header's types, which makes them a `headerList`
      have ⟨h0, h1, h2, h3, h4, h5, h6, _⟩ := hwf
      cases (wfVal_fixed_iff.1 h0).1; cases (wfVal_fixed_iff.1 h1).1; cases (wfVal_fixed_iff.1 h2).1
      cases (wfVal_fixed_iff.1 h3).1; cases (wfVal_fixed_iff.1 h4).1; cases (wfVal_fixed_iff.1 h5).1
      cases (wfVal_array_iff.1 h6).1
      exact ⟨_, _, _, hbs, hwf⟩
    · cases h
  · rintro ⟨n0, bl, r, hd⟩
    rw [(decodeFields_iff ..).2 hd]

theorem fieldOfVal_eq_some {v : Val} {f : Field} : fieldOfVal v = some f ↔ v = fieldVal f := by
  constructor
  · intro h
    unfold fieldOfVal at h
    split at h
    · cases h; rfl
    · cases h
  · rintro rfl; rfl

theorem mapM_fieldOfVal_eq_some : ∀ {vs : List Val} {fs : List Field},
    vs.mapM fieldOfVal = some fs ↔ vs = fs.map fieldVal
  | [], fs => by cases fs <;> simp
  | v :: vs, fs => by
    cases fs with
    | nil => simp [List.mapM_cons, Option.bind_eq_some_iff]
    | cons f fs =>
      simp [List.mapM_cons, Option.bind_eq_some_iff, fieldOfVal_eq_some, mapM_fieldOfVal_eq_some (vs := vs)]

theorem checkHeader_eq_some {s : Bool} {f : Frame} {bs : Bytes} {mt ver ser : Nat} {fv : List Val}
    {fields : List Field} :
    checkHeader s f bs mt ver ser fv = some fields ↔
      (headerPadding f bs).all (· == 0) = true ∧ mt ≠ 0 ∧ ver = 1 ∧ ser ≠ 0 ∧ fv = fields.map fieldVal ∧
        checkFields s fields [] = true ∧ mandatoryOK mt fields = true := by
  unfold checkHeader
  rw [← mapM_fieldOfVal_eq_some]
  cases fv.mapM fieldOfVal with
  | none => simp
  | some fs =>
    simp only [Option.ite_none_left_eq_some, Bool.not_eq_false, Option.some.injEq, Bool.not_eq_eq_eq_not,
      Bool.not_true, Decidable.not_not, ne_eq]
    constructor
    · rintro ⟨h1, h2, h3, h4, h5, h6, rfl⟩; exact ⟨h1, h2, h3, h4, rfl, h5, h6⟩
    · rintro ⟨h1, h2, h3, h4, rfl, h5, h6⟩; exact ⟨h1, h2, h3, h4, h5, h6, rfl⟩

theorem bodyVals_eq_some {fuel : Nat} {f : Frame} {fields : List Field} {bs : Bytes} {tys : List Ty}
    {vals : List Val} :
    bodyVals fuel f fields bs = some (tys, vals) ↔
      bodyTypesOf fields = some tys ∧ decodeFields f.e fuel 0 tys 0 (bodyBytes f bs) = some (vals, []) := by
  unfold bodyVals
  cases bodyTypesOf fields with
  | none => simp
  | some tys' =>
    simp only [Option.some.injEq]
    constructor
    · intro h
      split at h
      · rename_i hd; cases h; exact ⟨rfl, hd⟩
      · cases h
    · rintro ⟨rfl, hd⟩; rw [hd]

theorem loadOne_eq_ok {s : Bool} {mx fds : Nat} {bs : Bytes} {m : Msg} {n : Nat} :
    loadOne s mx fds bs = .ok m n ↔
      ∃ f fv, frameOf mx bs = .framed f ∧
        headerVals f bs = some (m.mtype, m.flags, m.version, m.serial, fv) ∧
        checkHeader s f bs m.mtype m.version m.serial fv = some m.fields ∧
        bodyVals (fuelFor bs.length) f m.fields bs = some (m.bodyTypes, m.body) ∧
        unixFdsOf m.fields ≤ fds ∧ m.endian = f.e ∧ n = f.total := by
  unfold loadOne
  constructor
  · intro h
    cases hf : frameOf mx bs with
    | incomplete => rw [hf] at h; cases h
    | corrupt => rw [hf] at h; cases h
    | framed f =>
      rw [hf] at h
      simp only at h
      cases hh : headerVals f bs with
      | none => rw [hh] at h; cases h
      | some p =>
        obtain ⟨mtype, flags, version, serial, fvals⟩ := p
        rw [hh] at h
        cases hc : checkHeader s f bs mtype version serial fvals with
        | none => simp only [hc] at h; cases h
        | some fields =>
          cases hb : bodyVals (fuelFor bs.length) f fields bs with
          | none => simp only [hc, hb] at h; cases h
          | some q =>
            obtain ⟨tys, vals⟩ := q
            simp only [hc, hb] at h
            split at h
            · cases h
            · rename_i hfds
              cases h
              exact ⟨f, fvals, rfl, hh, hc, hb, Nat.le_of_not_lt hfds, rfl, rfl⟩
  · rintro ⟨f, fv, hf, hh, hc, hb, hfds, he, rfl⟩
    obtain ⟨e, mt, fl, ver, ser, fs, bt, bd⟩ := m
    cases he
    simp only [hf, hh, hc, hb, if_neg (Nat.not_lt.2 hfds)]

theorem loadOne_ok_bounds {s : Bool} {mx fds : Nat} {bs : Bytes} {m : Msg} {n : Nat}
    (h : loadOne s mx fds bs = .ok m n) : 16 ≤ n ∧ n ≤ bs.length := by
  obtain ⟨f, _, hf, _, _, _, _, _, rfl⟩ := loadOne_eq_ok.1 h
  have := hlen_ge f
  exact ⟨by unfold Frame.total; omega, (frameOf_framed hf).2.2.2.2.1⟩

theorem loadOne_of_framed (s : Bool) {mx : Nat} (fds : Nat) {bs : Bytes} {f : Frame}
    (hf : frameOf mx bs = .framed f) :
    loadOne s mx fds bs = .corrupt ∨ ∃ m, loadOne s mx fds bs = .ok m f.total := by
  unfold loadOne
  rw [hf]
  dsimp only
  split
  · exact .inl rfl
  split
  · exact .inl rfl
  split
  · exact .inl rfl
  split
  · exact .inl rfl
  · exact .inr ⟨_, rfl⟩

theorem frameOf_append (mx : Nat) (bs x : Bytes) (h : frameOf mx bs ≠ .incomplete) :
    frameOf mx (bs ++ x) = frameOf mx bs := by
  by_cases hl : bs.length < 16
  · exact absurd (by rw [frameOf, if_pos hl]) h
  · have h0 : (bs ++ x).getD 0 0 = bs.getD 0 0 := by
      rw [List.getD_eq_getElem?_getD, List.getD_eq_getElem?_getD, List.getElem?_append_left (by omega)]
    have hw : ∀ k, k + 4 ≤ bs.length → ((bs ++ x).drop k).take 4 = (bs.drop k).take 4 := fun k hk => by
      rw [List.drop_append_of_le_length (by omega), List.take_append_of_le_length (by simp; omega)]
    have hlen : ¬ (bs ++ x).length < 16 := by rw [List.length_append]; omega
    unfold frameOf at h ⊢
    rw [if_neg hl] at h
    rw [if_neg hl, if_neg hlen, h0, hw 12 (by omega), hw 4 (by omega)]
    cases he : endianOfByte (bs.getD 0 0) with
    | none => rfl
    | some e =>
      rw [he] at h
      exact frameCore_len (by rw [List.length_append]; omega) h

theorem frameOf_append_framed {mx : Nat} {bs : Bytes} {f : Frame} (hf : frameOf mx bs = .framed f) (x : Bytes) :
    frameOf mx (bs ++ x) = .framed f := by
  rw [frameOf_append mx bs x (by rw [hf]; nofun), hf]

theorem headerVals_append {mx : Nat} {bs : Bytes} {f : Frame} (hf : frameOf mx bs = .framed f) (x : Bytes) :
    headerVals f (bs ++ x) = headerVals f bs := by
  refine Option.ext fun ⟨mt, fl, ver, ser, fv⟩ => ?_
  simp only [headerVals_eq_some]
  constructor
  · rintro ⟨n0, bl, r', hbs, hwf⟩
    -- the header ends inside `bs`: its array length word is the one `frameOf` read
    obtain ⟨_, _, hfa⟩ := frame_of_header (frameOf_append_framed hf x) hbs hwf
    have htot : f.total ≤ bs.length := (frameOf_framed hf).2.2.2.2.1
    have hlen := header_length f.e n0 mt fl ver bl ser fv
    obtain ⟨r0, hbs0, _⟩ := append_eq_append_of_le hbs
      (by have := hlen_ge f; unfold Frame.total at htot; omega)
    exact ⟨n0, bl, r0, hbs0, hwf⟩
  · rintro ⟨n0, bl, r, hbs, hwf⟩
    exact ⟨n0, bl, r ++ x, by rw [hbs, List.append_assoc], hwf⟩

end Dbus.Proofs.Loader
