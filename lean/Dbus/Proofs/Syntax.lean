import Dbus.Spec.Grammar
import Dbus.Model.Syntax
/-
  The dotted names share one loop (`scan_iff`, the texts being `Decomp`); the path has its own, which also counts the
  characters since the last `/` (`pathLoop_iff`).
-/
namespace Dbus.Proofs
open Dbus.Spec Dbus.Model

theorem guard_iff {n L : Nat} {b : Bool} {P : Prop} (h : b = true ↔ P) :
    (if n > L then false else b) = true ↔ n ≤ L ∧ P := by
  by_cases hl : n > L
  · simp only [if_pos hl, Bool.false_eq_true, false_iff]; omega
  · simp only [if_neg hl, h, iff_and_self]; omega

theorem isElement_cons {ini chr : UInt8 → Bool} {c : UInt8} {cs : Bytes} :
    IsElement ini chr (c :: cs) ↔ ini c = true ∧ ∀ x ∈ cs, chr x = true := by
  constructor
  · rintro ⟨c', cs', h, hc, hcs⟩; cases h; exact ⟨hc, hcs⟩
  · rintro ⟨hc, hcs⟩; exact ⟨c, cs, rfl, hc, hcs⟩

theorem intercalate_cons_flatMap (e : Bytes) (els : List Bytes) :
    [DOT].intercalate (e :: els) = e ++ els.flatMap (DOT :: ·) := by
  induction els generalizing e with
  | nil => simp
  | cons e' els ih => rw [List.intercalate_cons_cons, ih e']; simp

/-- what `scanRest` accepts (`scan_iff`): `t`, the rest of the element the scan stands in, then the
    elements `els`, a dot before each -/
def Decomp (ini chr : UInt8 → Bool) (s : Bytes) (t : Bytes) (els : List Bytes) : Prop :=
  (∀ x ∈ t, chr x = true) ∧ (∀ e ∈ els, IsElement ini chr e) ∧ s = t ++ els.flatMap (DOT :: ·)

section unfold
variable (ini chr : UInt8 → Bool)
theorem scanRest_nil (d : Bool) : scanRest ini chr [] d = some d := by
  rw [scanRest.eq_def]
theorem scanRest_dot_nil (d : Bool) : scanRest ini chr [DOT] d = none := by
  rw [scanRest.eq_def]; rfl
theorem scanRest_dot_cons (n : UInt8) (rest : Bytes) (d : Bool) :
    scanRest ini chr (DOT :: n :: rest) d = if ini n then scanRest ini chr rest true else none := by
  conv => lhs; rw [scanRest.eq_def]
  rfl
theorem scanRest_char (c : UInt8) (rest : Bytes) (d : Bool) (hc : c ≠ DOT) :
    scanRest ini chr (c :: rest) d = if chr c then scanRest ini chr rest d else none := by
  conv => lhs; rw [scanRest.eq_def]
  simp only [hc, if_false]
end unfold

section scan
variable {ini chr : UInt8 → Bool}

theorem Decomp.nil : Decomp ini chr [] [] [] := ⟨by simp, by simp, rfl⟩

theorem Decomp.char {c : UInt8} {s t : Bytes} {els : List Bytes} (hc : chr c = true)
    (h : Decomp ini chr s t els) : Decomp ini chr (c :: s) (c :: t) els :=
  ⟨List.forall_mem_cons.2 ⟨hc, h.1⟩, h.2.1, by rw [h.2.2]; rfl⟩

theorem Decomp.dot {n : UInt8} {s t : Bytes} {els : List Bytes} (hn : ini n = true)
    (h : Decomp ini chr s t els) : Decomp ini chr (DOT :: n :: s) [] ((n :: t) :: els) :=
  ⟨by simp, List.forall_mem_cons.2 ⟨isElement_cons.2 ⟨hn, h.1⟩, h.2.1⟩, by rw [h.2.2]; simp⟩

variable (hdot : chr DOT = false)
include hdot

theorem scan_chars (t s : Bytes) (d : Bool) (ht : ∀ x ∈ t, chr x = true) :
    scanRest ini chr (t ++ s) d = scanRest ini chr s d := by
  induction t with
  | nil => rfl
  | cons c t ih =>
    have hc : chr c = true := ht c (by simp)
    have hne : c ≠ DOT := by intro h; rw [h, hdot] at hc; cases hc
    rw [List.cons_append, scanRest_char _ _ _ _ _ hne, hc, if_pos rfl]
    exact ih (fun x hx => ht x (by simp [hx]))

theorem scan_els (els : List Bytes) (d : Bool) (he : ∀ e ∈ els, IsElement ini chr e) :
    scanRest ini chr (els.flatMap (DOT :: ·)) d = some (d || !els.isEmpty) := by
  induction els generalizing d with
  | nil => simp [scanRest_nil]
  | cons e els ih =>
    obtain ⟨c, cs, rfl, hc, hcs⟩ := he e (by simp)
    rw [List.flatMap_cons, List.cons_append, List.cons_append, scanRest_dot_cons, hc, if_pos rfl]
    rw [scan_chars hdot cs _ true hcs, ih true (fun e he' => he e (by simp [he']))]
    simp

theorem scan_iff (s : Bytes) (d d' : Bool) :
    scanRest ini chr s d = some d' ↔ ∃ t els, Decomp ini chr s t els ∧ d' = (d || !els.isEmpty) := by
  constructor
  · intro h
    -- the cases: end of the text; '.' at the end, before an initial character, before another;
    -- an element character, another
    fun_induction scanRest ini chr s d with
    | case1 d => exact ⟨[], [], .nil, by simpa [eq_comm] using h⟩
    | case2 d => cases h
    | case3 d n rest hn ih =>
      obtain ⟨t, els, hd, rfl⟩ := ih h
      exact ⟨[], _, hd.dot hn, by simp⟩
    | case4 d n rest hn => cases h
    | case5 c rest d hc hch ih =>
      obtain ⟨t, els, hd, rfl⟩ := ih h
      exact ⟨_, _, hd.char hch, rfl⟩
    | case6 c rest d hc hch => cases h
  · rintro ⟨t, els, ⟨ht, he, rfl⟩, rfl⟩
    rw [scan_chars hdot t _ d ht, scan_els hdot els d he]

end scan

theorem nameChar_dot : isNameChar DOT = false := by decide
theorem busNameChar_dot : isBusNameChar DOT = false := by decide
theorem initialNameChar_dot : isInitialNameChar DOT = false := by decide
theorem initialBusNameChar_dot : isInitialBusNameChar DOT = false := by decide
theorem initialBusNameChar_colon : isInitialBusNameChar COLON = false := by decide
theorem nameChar_slash : isNameChar SLASH = false := by decide

section dotted
variable {ini chr : UInt8 → Bool} {n : Nat}

theorem not_isDotted_nil : ¬ IsDotted ini chr n [] := by
  rintro ⟨els, _, hne, he, hs⟩
  match els, hne with
  | e :: els, _ =>
    obtain ⟨c, cs, rfl, _⟩ := he e (by simp)
    rw [intercalate_cons_flatMap] at hs
    cases hs

theorem isDotted_cons_iff {c : UInt8} {rest : Bytes} :
    IsDotted ini chr n (c :: rest) ↔
      ini c = true ∧ ∃ t els, Decomp ini chr rest t els ∧ n ≤ els.length + 1 := by
  constructor
  · rintro ⟨els, hn, hne, he, hs⟩
    match els, hne with
    | e :: els, _ =>
      obtain ⟨⟨c', t, rfl, hc, ht⟩, hels⟩ := List.forall_mem_cons.1 he
      rw [intercalate_cons_flatMap, List.cons_append, List.cons.injEq] at hs
      obtain ⟨rfl, rfl⟩ := hs
      exact ⟨hc, t, els, ⟨ht, hels, rfl⟩, by simpa using hn⟩
  · rintro ⟨hc, t, els, ⟨ht, he, rfl⟩, hn⟩
    exact ⟨(c :: t) :: els, by simpa using hn, by simp,
      List.forall_mem_cons.2 ⟨isElement_cons.2 ⟨hc, ht⟩, he⟩, by rw [intercalate_cons_flatMap]; rfl⟩

/-- the validators ask for one element (any result of the scan) or for two (the scan has seen
    a dot) -/
theorem isDotted_cons_iff_scan (hdot : chr DOT = false) (hn : n ≤ 2) {c : UInt8} {rest : Bytes} :
    IsDotted ini chr n (c :: rest) ↔
      ini c = true ∧ ∃ d, scanRest ini chr rest false = some d ∧ (n = 2 → d = true) := by
  have key : ∀ els : List Bytes, n ≤ els.length + 1 ↔ (n = 2 → (false || !els.isEmpty) = true) :=
    fun els => by cases els <;> simp <;> omega
  rw [isDotted_cons_iff]
  refine and_congr_right fun _ => ⟨?_, ?_⟩
  · rintro ⟨t, els, hd, hl⟩
    exact ⟨_, (scan_iff hdot _ _ _).2 ⟨t, els, hd, rfl⟩, (key els).1 hl⟩
  · rintro ⟨d, hs, hd⟩
    obtain ⟨t, els, hdec, rfl⟩ := (scan_iff hdot _ _ _).1 hs
    exact ⟨t, els, hdec, (key els).2 hd⟩

end dotted

theorem laxUniqueTail_iff (t : Bytes) :
    LaxUniqueTail t ↔ (scanRest isBusNameChar isBusNameChar t false).isSome = true := by
  simp only [Option.isSome_iff_exists, scan_iff busNameChar_dot]
  exact ⟨fun ⟨t0, els, h⟩ => ⟨_, t0, els, h, rfl⟩, fun ⟨_, t0, els, h, _⟩ => ⟨t0, els, h⟩⟩

theorem laxUniqueTail_of_isDotted {n : Nat} {t : Bytes}
    (h : IsDotted isBusNameChar isBusNameChar n t) : LaxUniqueTail t := by
  cases t with
  | nil => exact absurd h not_isDotted_nil
  | cons c rest =>
    obtain ⟨hc, t0, els, hd, _⟩ := isDotted_cons_iff.1 h
    exact ⟨c :: t0, els, hd.char hc⟩

theorem pathLoop_nil (k : Nat) : pathLoop [] k = decide (k ≥ 1) := by rw [pathLoop.eq_def]
theorem pathLoop_slash (rest : Bytes) (k : Nat) :
    pathLoop (SLASH :: rest) k = if k < 1 then false else pathLoop rest 0 := by
  conv => lhs; rw [pathLoop.eq_def]
  simp
theorem pathLoop_char (c : UInt8) (rest : Bytes) (k : Nat) (hc : c ≠ SLASH) :
    pathLoop (c :: rest) k = if isNameChar c then pathLoop rest (k + 1) else false := by
  conv => lhs; rw [pathLoop.eq_def]
  simp [hc]

theorem pathLoop_chars (t s : Bytes) (k : Nat) (ht : ∀ x ∈ t, isNameChar x = true) :
    pathLoop (t ++ s) k = pathLoop s (k + t.length) := by
  induction t generalizing k with
  | nil => rfl
  | cons c t ih =>
    have hc : isNameChar c = true := ht c (by simp)
    have hne : c ≠ SLASH := by intro h; rw [h, nameChar_slash] at hc; cases hc
    rw [List.cons_append, pathLoop_char _ _ _ hne, hc, if_pos rfl, ih _ (fun x hx => ht x (by simp [hx]))]
    congr 1; simp; omega

theorem pathLoop_els (els : List Bytes) (k : Nat) (hk : k ≥ 1)
    (he : ∀ e ∈ els, e ≠ [] ∧ ∀ c ∈ e, isNameChar c = true) :
    pathLoop (els.flatMap (SLASH :: ·)) k = true := by
  induction els generalizing k with
  | nil => simp [pathLoop_nil, hk]
  | cons e els ih =>
    obtain ⟨hne, hcs⟩ := he e (by simp)
    rw [List.flatMap_cons, List.cons_append, pathLoop_slash, if_neg (by omega), pathLoop_chars _ _ _ hcs]
    apply ih
    · have := List.length_pos_iff.2 hne
      omega
    · exact fun e' h' => he e' (by simp [h'])

theorem pathLoop_iff (s : Bytes) (k : Nat) : pathLoop s k = true ↔
    ∃ (t : Bytes) (els : List Bytes), (∀ x ∈ t, isNameChar x = true) ∧
      (∀ e ∈ els, e ≠ [] ∧ ∀ c ∈ e, isNameChar c = true) ∧
      s = t ++ els.flatMap (SLASH :: ·) ∧ k + t.length ≥ 1 := by
  constructor
  · intro h
    -- the cases: end of the text; '/' after no character, after some; a name character, another
    fun_induction pathLoop s k with
    | case1 k => exact ⟨[], [], by simp, by simp, rfl, by simpa using h⟩
    | case2 rest k hk => cases h
    | case3 rest k hk ih =>
      obtain ⟨t, els, ht, he, rfl, hk'⟩ := ih h
      have hne : t ≠ [] := by rintro rfl; simp at hk'
      exact ⟨[], t :: els, by simp, List.forall_mem_cons.2 ⟨⟨hne, ht⟩, he⟩, rfl, by simp; omega⟩
    | case4 c rest k hc hn ih =>
      obtain ⟨t, els, ht, he, rfl, hk'⟩ := ih h
      exact ⟨c :: t, els, List.forall_mem_cons.2 ⟨hn, ht⟩, he, rfl, by simp; omega⟩
    | case5 c rest k hc hn => cases h
  · rintro ⟨t, els, ht, he, rfl, hk⟩
    rw [pathLoop_chars _ _ _ ht]
    exact pathLoop_els els _ hk he

theorem not_specPath_nil : ¬ SpecPath [] := by
  rintro (h | ⟨els, hne, _, hs⟩)
  · cases h
  · match els, hne with
    | _ :: _, _ => cases hs

theorem specPath_cons_iff {c : UInt8} {rest : Bytes} :
    SpecPath (c :: rest) ↔ c = SLASH ∧ (rest = [] ∨ pathLoop rest 0 = true) := by
  constructor
  · rintro (h | ⟨els, hne, he, hs⟩)
    · cases h; exact ⟨rfl, Or.inl rfl⟩
    · match els, hne with
      | e :: els, _ =>
        rw [List.flatMap_cons, List.cons_append, List.cons.injEq] at hs
        obtain ⟨rfl, rfl⟩ := hs
        obtain ⟨⟨hene, hec⟩, hels⟩ := List.forall_mem_cons.1 he
        have := List.length_pos_iff.2 hene
        exact ⟨rfl, Or.inr ((pathLoop_iff _ 0).2 ⟨e, els, hec, hels, rfl, by omega⟩)⟩
  · rintro ⟨rfl, rfl | h⟩
    · exact Or.inl rfl
    · obtain ⟨t, els, ht, he, rfl, hk⟩ := (pathLoop_iff _ 0).1 h
      have hne : t ≠ [] := by rintro rfl; simp at hk
      exact Or.inr ⟨t :: els, by simp, List.forall_mem_cons.2 ⟨⟨hne, ht⟩, he⟩, rfl⟩

/-- shared analysis of `_dbus_validate_bus_name_full` -/
theorem validateBusNameFull_iff (s : Bytes) (ns : Bool) :
    validateBusNameFull s ns = true ↔
      s.length ≤ MAX_NAME_LENGTH ∧
        (IsDotted isInitialBusNameChar isBusNameChar (if ns then 1 else 2) s ∨
          ∃ t, s = COLON :: t ∧ LaxUniqueTail t) := by
  unfold validateBusNameFull
  refine guard_iff ?_
  cases s with
  | nil => simp [not_isDotted_nil]
  | cons c rest =>
    rw [isDotted_cons_iff_scan busNameChar_dot (by cases ns <;> decide)]
    by_cases hcol : c = COLON
    · simp [hcol, initialBusNameChar_colon, laxUniqueTail_iff]
    by_cases hc : c = DOT
    · subst hc
      simp [hcol, initialBusNameChar_dot]
    · cases hs : scanRest isInitialBusNameChar isBusNameChar rest false <;> cases ns <;>
        simp [hc, hcol, hs]

end Dbus.Proofs
