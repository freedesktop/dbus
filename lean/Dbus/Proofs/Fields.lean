import Dbus.Model.Encode
/-
  Header fields as a list, their encoding aside: the clauses of well-formedness that look a field up see only what
  `getField` returns.
-/
namespace Dbus.Proofs.Message
open Dbus.Spec Dbus.Model

/-- what the per-field loop of the loader demands of one field -/
def FieldOK (f : Field) : Prop :=
  f.code ≠ 0 ∧ (f.code ≤ FIELD_LAST →
    ∃ b, fieldType f.code = some b ∧ f.ty = .basic b ∧ fieldContentOK true f.code f.val = true)

def knownCodes (fs : List Field) : List Nat := (fs.filter fun f => decide (f.code ≤ FIELD_LAST)).map (·.code)

theorem knownCodes_cons (f : Field) (fs : List Field) :
    knownCodes (f :: fs) = if f.code ≤ FIELD_LAST then f.code :: knownCodes fs else knownCodes fs := by
  unfold knownCodes
  by_cases h : f.code ≤ FIELD_LAST
  · rw [if_pos h, List.filter_cons_of_pos (by simpa using h), List.map_cons]
  · rw [if_neg h, List.filter_cons_of_neg (by simpa using h)]

theorem checkFields_cons (f : Field) (fs : List Field) (seen : List Nat) :
    checkFields true (f :: fs) seen = true ↔
      FieldOK f ∧ if f.code ≤ FIELD_LAST then f.code ∉ seen ∧ checkFields true fs (f.code :: seen) = true
        else checkFields true fs seen = true := by
  unfold FieldOK
  rw [checkFields]
  by_cases h0 : f.code = 0
  · rw [if_pos h0]; exact ⟨nofun, fun h => absurd h0 h.1.1⟩
  by_cases hl : FIELD_LAST < f.code
  · rw [if_neg h0, if_pos hl, if_neg (Nat.not_le.2 hl)]
    exact ⟨fun h => ⟨⟨h0, fun hle => absurd hle (Nat.not_le.2 hl)⟩, h⟩, fun h => h.2⟩
  have hle : f.code ≤ FIELD_LAST := Nat.le_of_not_lt hl
  rw [if_neg h0, if_neg hl, if_pos hle]
  cases hft : fieldType f.code with
  | none => exact ⟨nofun, fun h => by obtain ⟨b, hb, _⟩ := h.1.2 hle; cases hb⟩
  | some b =>
    cases hty : f.ty with
    | basic b' =>
      dsimp only
      by_cases hb : b = b'
      · subst hb
        rw [if_neg (fun h : b ≠ b => h rfl)]
        by_cases hs : seen.contains f.code = true
        · rw [if_pos hs]; exact ⟨nofun, fun h => absurd (List.contains_iff_mem.1 hs) h.2.1⟩
        by_cases hc : fieldContentOK true f.code f.val = true
        · rw [if_neg hs, if_neg (show ¬ (!fieldContentOK true f.code f.val) = true by rw [hc]; decide)]
          exact ⟨fun h => ⟨⟨h0, fun _ => ⟨b, rfl, rfl, hc⟩⟩, fun hm => hs (List.contains_iff_mem.2 hm), h⟩,
            fun h => h.2.2⟩
        · rw [if_neg hs, if_pos (show (!fieldContentOK true f.code f.val) = true by rw [Bool.eq_false_iff.2 hc]; rfl)]
          exact ⟨nofun, fun h => by obtain ⟨_, _, _, h⟩ := h.1.2 hle; exact absurd h hc⟩
      · rw [if_pos hb]
        exact ⟨nofun, fun h => by
          obtain ⟨_, h1, h2, _⟩ := h.1.2 hle
          exact absurd ((Option.some.inj h1).trans (Ty.basic.inj h2).symm) hb⟩
    | _ => exact ⟨nofun, fun h => by obtain ⟨_, _, h2, _⟩ := h.1.2 hle; cases h2⟩

theorem checkFields_iff : ∀ (fs : List Field) (seen : List Nat),
    checkFields true fs seen = true ↔
      (∀ f ∈ fs, FieldOK f) ∧ (knownCodes fs).Nodup ∧ ∀ c ∈ knownCodes fs, c ∉ seen
  | [], seen => by simp [checkFields, knownCodes]
  | f :: fs, seen => by
    rw [checkFields_cons, knownCodes_cons, List.forall_mem_cons]
    by_cases hle : f.code ≤ FIELD_LAST
    · rw [if_pos hle, if_pos hle, checkFields_iff fs (f.code :: seen), List.nodup_cons, List.forall_mem_cons]
      constructor
      · rintro ⟨hf, hns, hfs, hnd, hc⟩
        exact ⟨⟨hf, hfs⟩, ⟨fun hm => hc _ hm List.mem_cons_self, hnd⟩, hns,
          fun c hm h => hc c hm (List.mem_cons_of_mem _ h)⟩
      · rintro ⟨⟨hf, hfs⟩, ⟨hnm, hnd⟩, hns, hc⟩
        refine ⟨hf, hns, hfs, hnd, fun c hm h => ?_⟩
        rcases List.mem_cons.1 h with rfl | h
        · exact hnm hm
        · exact hc c hm h
    · rw [if_neg hle, if_neg hle, checkFields_iff fs seen, and_assoc]

theorem mem_setFieldList : ∀ (fs : List Field) (f g : Field), g ∈ setFieldList fs f → g ∈ fs ∨ g = f
  | [], f, g, h => by simp [setFieldList] at h; exact Or.inr h
  | x :: fs, f, g, h => by
    unfold setFieldList at h
    split at h
    · rcases List.mem_cons.1 h with rfl | h
      · exact Or.inr rfl
      · exact Or.inl (List.mem_cons_of_mem _ h)
    · rcases List.mem_cons.1 h with rfl | h
      · exact Or.inl (by simp)
      · rcases mem_setFieldList fs f g h with h | h
        · exact Or.inl (List.mem_cons_of_mem _ h)
        · exact Or.inr h

theorem forall_mem_setFieldList {P : Field → Prop} {fs : List Field} {f : Field} (hfs : ∀ g ∈ fs, P g) (hf : P f) :
    ∀ g ∈ setFieldList fs f, P g :=
  fun g hg => (mem_setFieldList fs f g hg).elim (hfs g) fun h => h ▸ hf

theorem deleteFieldList_sublist : ∀ (fs : List Field) (c : Nat), (deleteFieldList fs c).Sublist fs
  | [], _ => by simp [deleteFieldList]
  | x :: fs, c => by
    unfold deleteFieldList
    split
    · exact List.sublist_cons_self x fs
    · exact (deleteFieldList_sublist fs c).cons_cons x

theorem removeUnknownList_sublist (fs : List Field) : (removeUnknownList fs).Sublist fs :=
  List.filter_sublist

theorem knownCodes_sublist {fs' fs : List Field} (h : fs'.Sublist fs) : (knownCodes fs').Sublist (knownCodes fs) :=
  (h.filter _).map _

theorem knownCodes_set : ∀ (fs : List Field) (f : Field), f.code ≤ FIELD_LAST →
    knownCodes (setFieldList fs f) = if f.code ∈ knownCodes fs then knownCodes fs else knownCodes fs ++ [f.code]
  | [], f, hf => by rw [setFieldList, knownCodes_cons, if_pos hf]; rfl
  | x :: fs, f, hf => by
    rw [setFieldList]
    by_cases hx : x.code = f.code
    · have hxl : x.code ≤ FIELD_LAST := hx ▸ hf
      rw [if_pos hx, knownCodes_cons f, if_pos hf, knownCodes_cons x, if_pos hxl, hx, if_pos List.mem_cons_self]
    · rw [if_neg hx, knownCodes_cons x (setFieldList fs f), knownCodes_cons x fs, knownCodes_set fs f hf]
      by_cases hxl : x.code ≤ FIELD_LAST
      · simp only [if_pos hxl]
        by_cases hm : f.code ∈ knownCodes fs
        · rw [if_pos hm, if_pos (List.mem_cons_of_mem _ hm)]
        · rw [if_neg hm, if_neg (fun h => (List.mem_cons.1 h).elim (fun h => hx h.symm) hm)]; rfl
      · simp only [if_neg hxl]

theorem checkFields_set (fs : List Field) (f : Field) (h : checkFields true fs [] = true)
    (hl : f.code ≤ FIELD_LAST) (hf : FieldOK f) : checkFields true (setFieldList fs f) [] = true := by
  rw [checkFields_iff] at h ⊢
  obtain ⟨h1, h2, _⟩ := h
  refine ⟨forall_mem_setFieldList h1 hf, ?_, by simp⟩
  · rw [knownCodes_set fs f hl]
    split
    · exact h2
    · rename_i hm
      exact List.nodup_append.2 ⟨h2, by simp, fun a ha b hb hab => hm (List.mem_singleton.1 hb ▸ hab ▸ ha)⟩

theorem checkFields_sublist {fs' fs : List Field} (hs : fs'.Sublist fs) (h : checkFields true fs [] = true) :
    checkFields true fs' [] = true := by
  rw [checkFields_iff] at h ⊢
  exact ⟨fun g hg => h.1 g (hs.subset hg), h.2.1.sublist (knownCodes_sublist hs), by simp⟩

/-- the loader lets a known code through once (the form in which `C12.delete_removes` asks for it) -/
theorem checkFields_once {fs : List Field} {seen : List Nat} (h : checkFields true fs seen = true) {c : Nat}
    (hc : c ≤ FIELD_LAST) : (fs.filter (·.code = c)).length ≤ 1 := by
  have hn := List.nodup_iff_count.1 ((checkFields_iff fs seen).1 h).2.1 c
  unfold knownCodes at hn
  rw [List.count_eq_countP, List.countP_map, List.countP_filter, List.countP_eq_length_filter] at hn
  refine Nat.le_trans (Nat.le_of_eq (congrArg List.length (List.filter_congr fun f _ => ?_))) hn
  by_cases hf : f.code = c <;> simp [hf, hc]

theorem getField_eq_none {fs : List Field} {c : Nat} : getField fs c = none ↔ ∀ f ∈ fs, f.code ≠ c := by
  rw [getField, Option.map_eq_none_iff, List.find?_eq_none]
  simp only [decide_eq_true_eq]

theorem getField_cons (g : Field) (fs : List Field) (c : Nat) :
    getField (g :: fs) c = if g.code = c then some g.val else getField fs c := by
  unfold getField
  rw [List.find?_cons]
  by_cases h : g.code = c
  · rw [if_pos h, decide_eq_true h]; rfl
  · rw [if_neg h, decide_eq_false h]

theorem getField_set : ∀ (fs : List Field) (f : Field) (c : Nat),
    getField (setFieldList fs f) c = if f.code = c then some f.val else getField fs c
  | [], f, c => by rw [setFieldList, getField_cons]
  | g :: fs, f, c => by
    rw [setFieldList]
    by_cases h : g.code = f.code
    · rw [if_pos h, getField_cons, getField_cons, h]
      by_cases hc : f.code = c
      · simp only [if_pos hc]
      · simp only [if_neg hc]
    · rw [if_neg h, getField_cons, getField_cons, getField_set fs f c]
      by_cases hg : g.code = c
      · simp only [if_pos hg, if_neg (fun hf : f.code = c => h (hg.trans hf.symm))]
      · simp only [if_neg hg]

theorem bodyTypesOf_congr {fs fs' : List Field} (h : getField fs' FIELD_SIGNATURE = getField fs FIELD_SIGNATURE) :
    bodyTypesOf fs' = bodyTypesOf fs := by
  unfold bodyTypesOf; rw [h]

theorem unixFdsOf_congr {fs fs' : List Field} (h : getField fs' FIELD_UNIX_FDS = getField fs FIELD_UNIX_FDS) :
    unixFdsOf fs' = unixFdsOf fs := by
  unfold unixFdsOf; rw [h]

theorem hasField_eq (fs : List Field) (c : Nat) : hasField fs c = (getField fs c).isSome := by
  rw [getField, Option.isSome_map, List.isSome_find?]
  rfl

theorem hasField_set (fs : List Field) (f : Field) (c : Nat) :
    hasField (setFieldList fs f) c = (hasField fs c || decide (f.code = c)) := by
  rw [hasField_eq, hasField_eq, getField_set]
  by_cases h : f.code = c
  · rw [if_pos h, decide_eq_true h, Bool.or_true]; rfl
  · rw [if_neg h, decide_eq_false h, Bool.or_false]

theorem mandatoryOK_mono {mt : Nat} {fs fs' : List Field}
    (h : ∀ c, hasField fs c = true → hasField fs' c = true) :
    mandatoryOK mt fs = true → mandatoryOK mt fs' = true := by
  unfold mandatoryOK
  by_cases h4 : mt = 4
  · rw [if_pos h4, if_pos h4, Bool.and_eq_true, Bool.and_eq_true, Bool.and_eq_true, Bool.and_eq_true]
    exact fun ⟨⟨a, b⟩, c⟩ => ⟨⟨h _ a, h _ b⟩, h _ c⟩
  by_cases h1 : mt = 1
  · rw [if_neg h4, if_pos h1, if_neg h4, if_pos h1, Bool.and_eq_true, Bool.and_eq_true]
    exact fun ⟨a, b⟩ => ⟨h _ a, h _ b⟩
  by_cases h3 : mt = 3
  · rw [if_neg h4, if_neg h1, if_pos h3, if_neg h4, if_neg h1, if_pos h3, Bool.and_eq_true, Bool.and_eq_true]
    exact fun ⟨a, b⟩ => ⟨h _ a, h _ b⟩
  by_cases h2 : mt = 2
  · rw [if_neg h4, if_neg h1, if_neg h3, if_pos h2, if_neg h4, if_neg h1, if_neg h3, if_pos h2]
    exact h _
  · rw [if_neg h4, if_neg h1, if_neg h3, if_neg h2, if_neg h4, if_neg h1, if_neg h3, if_neg h2]
    exact id

theorem mandatoryOK_set (mt : Nat) (fs : List Field) (f : Field) (h : mandatoryOK mt fs = true) :
    mandatoryOK mt (setFieldList fs f) = true :=
  mandatoryOK_mono (fun c hc => by rw [hasField_set, hc]; rfl) h

theorem known_and_code {c : Nat} (hc : c ≤ FIELD_LAST) (f : Field) :
    (decide (f.code ≤ FIELD_LAST) && decide (f.code = c)) = decide (f.code = c) := by
  by_cases h : f.code = c
  · rw [decide_eq_true h, decide_eq_true (h ▸ hc)]; rfl
  · rw [decide_eq_false h, Bool.and_false]

theorem getField_removeUnknown (fs : List Field) (c : Nat) (hc : c ≤ FIELD_LAST) :
    getField (removeUnknownList fs) c = getField fs c := by
  simp only [getField, removeUnknownList, List.find?_filter, Bool.decide_and, Bool.decide_eq_true, known_and_code hc]

theorem hasField_removeUnknown (fs : List Field) (c : Nat) (hc : c ≤ FIELD_LAST) :
    hasField (removeUnknownList fs) c = hasField fs c := by
  rw [hasField_eq, hasField_eq, getField_removeUnknown fs c hc]

theorem mandatoryOK_removeUnknown (mt : Nat) (fs : List Field) :
    mandatoryOK mt (removeUnknownList fs) = mandatoryOK mt fs := by
  unfold mandatoryOK
  simp only [hasField_removeUnknown _ FIELD_INTERFACE (by decide), hasField_removeUnknown _ FIELD_PATH (by decide),
    hasField_removeUnknown _ FIELD_MEMBER (by decide), hasField_removeUnknown _ FIELD_ERROR_NAME (by decide),
    hasField_removeUnknown _ FIELD_REPLY_SERIAL (by decide)]

end Dbus.Proofs.Message
