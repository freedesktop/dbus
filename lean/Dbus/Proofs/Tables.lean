import Dbus.Generated.Tables
import Dbus.Spec.Types
import Dbus.Model.Utf8
/-
  T-tie proof obligations: the tables regenerated from the compiled source on this run are
  exactly the specification-level definitions the models and theorems are stated over.
  Every statement ranges over the complete finite domain (`decide +kernel`, no sampling).
-/
namespace Dbus.Proofs.Tables
open Dbus.Spec Dbus.Model

theorem nameChar_table :
    Generated.nameChar = (List.range 256).map (fun n => isNameChar (UInt8.ofNat n)) := by
  decide +kernel
theorem initialNameChar_table :
    Generated.initialNameChar = (List.range 256).map (fun n => isInitialNameChar (UInt8.ofNat n)) := by
  decide +kernel
theorem busNameChar_table :
    Generated.busNameChar = (List.range 256).map (fun n => isBusNameChar (UInt8.ofNat n)) := by
  decide +kernel
theorem initialBusNameChar_table :
    Generated.initialBusNameChar =
      (List.range 256).map (fun n => isInitialBusNameChar (UInt8.ofNat n)) := by
  decide +kernel

theorem utf8Lead_table : Generated.utf8LeadTab = (List.range 256).map utf8Lead := by
  decide +kernel

/-- UTF8_LENGTH and UNICODE_VALID agree with the model at every threshold of both functions
    (they are piecewise constant between these points; the K-tie covers the interior) -/
theorem utf8Point_table :
    Generated.utf8PointTab.all (fun p => utf8Length p.1 == p.2.1 && (unicodeValid p.1 == (p.2.2 == 1)))
      = true := by
  decide +kernel

theorem typeTab_table : Generated.typeTab = (List.range 256).map typeInfo := by
  decide +kernel

theorem limits_table :
    Generated.maxNameLength = MAX_NAME_LENGTH ∧ Generated.maxSignatureLength = MAX_SIGNATURE_LENGTH ∧
    Generated.maxTypeRecursionDepth = MAX_TYPE_DEPTH ∧ Generated.maxArrayLength = MAX_ARRAY_LENGTH ∧
    Generated.maxMessageLength = MAX_MESSAGE_LENGTH := by
  decide

end Dbus.Proofs.Tables
