import Dbus.Model.Loader
import Dbus.Proofs.MessageLevel
/-
  `feed` runs `drain` with more fuel than there can be messages, and any two such amounts give the same result
  (`drain_fuel`): a function of the loader alone (`drainAll`), with one equation for each way a round can go.
  The key fact is `drainAll_app`: draining, receiving more, draining again = receiving first.
-/
namespace Dbus.Proofs.Loader
open Dbus.Model Dbus.Proofs.Message

/-- equal in what can still be observed: once corrupt, the pending bytes are never read again,
    and the two sides of `feed_feed` differ in them -/
def Equiv (l l' : Loader) : Prop :=
  l.msgs = l'.msgs ∧ l.corrupted = l'.corrupted ∧ (l.corrupted = false → l.buf = l'.buf ∧ l.fds = l'.fds)

theorem Equiv.refl (l : Loader) : Equiv l l := ⟨rfl, rfl, fun _ => ⟨rfl, rfl⟩⟩

theorem Equiv.observable {l l' : Loader} (h : Equiv l l') : l.observable = l'.observable :=
  Prod.ext h.1 h.2.1

theorem Equiv.trans {a b c : Loader} (h1 : Equiv a b) (h2 : Equiv b c) : Equiv a c := by
  obtain ⟨m1, c1, b1⟩ := h1
  obtain ⟨m2, c2, b2⟩ := h2
  refine ⟨m1.trans m2, c1.trans c2, fun h => ?_⟩
  obtain ⟨x1, y1⟩ := b1 h
  obtain ⟨x2, y2⟩ := b2 (by rw [← c1]; exact h)
  exact ⟨x1.trans x2, y1.trans y2⟩

variable (mx : Nat)

theorem drain_zero (l : Loader) : drain mx 0 l = l := rfl

def _root_.Dbus.Model.Loader.step (l : Loader) (m : Msg) (n : Nat) : Loader :=
  { l with buf := l.buf.drop n, msgs := l.msgs ++ [m], fds := l.fds - unixFdsOf m.fields }

def _root_.Dbus.Model.Loader.app (l : Loader) (x : Bytes) : Loader := { l with buf := l.buf ++ x }

theorem drain_corrupted (g : Nat) (l : Loader) (h : l.corrupted = true) : drain mx (g + 1) l = l := by
  rw [drain, if_pos h]

theorem drain_incomplete (g : Nat) (l : Loader) (h : ¬ l.corrupted = true)
    (hl : loadOne true mx l.fds l.buf = .incomplete) : drain mx (g + 1) l = l := by
  rw [drain, if_neg h, hl]

theorem drain_corrupt (g : Nat) (l : Loader) (h : ¬ l.corrupted = true)
    (hl : loadOne true mx l.fds l.buf = .corrupt) : drain mx (g + 1) l = { l with corrupted := true } := by
  rw [drain, if_neg h, hl]

theorem drain_ok (g : Nat) (l : Loader) (h : ¬ l.corrupted = true) (m : Msg) (n : Nat)
    (hl : loadOne true mx l.fds l.buf = .ok m n) : drain mx (g + 1) l = drain mx g (l.step m n) := by
  rw [drain, if_neg h, hl]
  rfl

theorem drain_induction {P : Loader → Prop}
    (hstep : ∀ (l : Loader) m n, loadOne true mx l.fds l.buf = .ok m n → P l → P (l.step m n))
    (hmark : ∀ l : Loader, P l → P { l with corrupted := true }) :
    ∀ (g : Nat) (l : Loader), P l → P (drain mx g l)
  | 0, _, h => h
  | g + 1, l, h => by
    by_cases hc : l.corrupted = true
    · rwa [drain_corrupted mx g l hc]
    · cases hl : loadOne true mx l.fds l.buf with
      | incomplete => rwa [drain_incomplete mx g l hc hl]
      | corrupt => rw [drain_corrupt mx g l hc hl]; exact hmark l h
      | ok m n => rw [drain_ok mx g l hc m n hl]; exact drain_induction hstep hmark g _ (hstep l m n hl h)

theorem step_buf_lt {l : Loader} {m : Msg} {n : Nat} (hl : loadOne true mx l.fds l.buf = .ok m n) :
    (l.step m n).buf.length < l.buf.length := by
  obtain ⟨h16, hn⟩ := loadOne_ok_bounds hl
  show (l.buf.drop n).length < _
  rw [List.length_drop]; omega

theorem drain_fuel : ∀ (f1 f2 : Nat) (l : Loader), l.buf.length + 1 ≤ f1 → l.buf.length + 1 ≤ f2 →
    drain mx f1 l = drain mx f2 l
  | 0, _, l, h1, _ => by omega
  | _ + 1, 0, l, _, h2 => by omega
  | k + 1, j + 1, l, h1, h2 => by
    by_cases hc : l.corrupted = true
    · rw [drain_corrupted mx k l hc, drain_corrupted mx j l hc]
    · cases hl : loadOne true mx l.fds l.buf with
      | incomplete => rw [drain_incomplete mx k l hc hl, drain_incomplete mx j l hc hl]
      | corrupt => rw [drain_corrupt mx k l hc hl, drain_corrupt mx j l hc hl]
      | ok m n =>
        have := step_buf_lt mx hl
        rw [drain_ok mx k l hc m n hl, drain_ok mx j l hc m n hl]
        exact drain_fuel k j _ (by omega) (by omega)

def drainAll (l : Loader) : Loader := drain mx (l.buf.length + 1) l

theorem drain_eq_drainAll {g : Nat} {l : Loader} (h : l.buf.length + 1 ≤ g) : drain mx g l = drainAll mx l :=
  drain_fuel mx g _ l h (Nat.le_refl _)

theorem drainAll_corrupted {l : Loader} (h : l.corrupted = true) : drainAll mx l = l :=
  drain_corrupted mx _ l h

theorem drainAll_incomplete {l : Loader} (h : ¬ l.corrupted = true)
    (hl : loadOne true mx l.fds l.buf = .incomplete) : drainAll mx l = l :=
  drain_incomplete mx _ l h hl

theorem drainAll_corrupt {l : Loader} (h : ¬ l.corrupted = true)
    (hl : loadOne true mx l.fds l.buf = .corrupt) : drainAll mx l = { l with corrupted := true } :=
  drain_corrupt mx _ l h hl

theorem drainAll_ok {l : Loader} (h : ¬ l.corrupted = true) {m : Msg} {n : Nat}
    (hl : loadOne true mx l.fds l.buf = .ok m n) : drainAll mx l = drainAll mx (l.step m n) := by
  have := step_buf_lt mx hl
  rw [drainAll, drain_ok mx _ l h m n hl, drain_eq_drainAll mx (by omega)]

theorem framing_induction {P : Loader → Prop}
    (step : ∀ l, (∀ m n, ¬ l.corrupted = true → loadOne true mx l.fds l.buf = .ok m n → P (l.step m n)) → P l) :
    ∀ l, P l := by
  have key : ∀ k l, l.buf.length < k → P l := by
    intro k
    induction k with
    | zero => intro l h; omega
    | succ k ih =>
      intro l h
      exact step l fun m n _ hl => ih _ (by have := step_buf_lt mx hl; omega)
  exact fun l => key _ l (Nat.lt_succ_self _)

def Stable (l : Loader) : Prop := l.corrupted = true ∨ loadOne true mx l.fds l.buf = .incomplete

theorem stable_empty : Stable mx {} := .inr rfl

theorem drain_stable (g : Nat) {l : Loader} (h : Stable mx l) : drain mx g l = l := by
  cases g with
  | zero => rfl
  | succ g =>
    by_cases hc : l.corrupted = true
    · exact drain_corrupted mx g l hc
    · exact drain_incomplete mx g l hc (h.resolve_left hc)

theorem drainAll_of_stable {l : Loader} (h : Stable mx l) : drainAll mx l = l :=
  drain_stable mx _ h

theorem drainAll_is_stable : ∀ l, Stable mx (drainAll mx l) := by
  refine framing_induction mx fun l ih => ?_
  by_cases hc : l.corrupted = true
  · rw [drainAll_corrupted mx hc]; exact Or.inl hc
  · cases hl : loadOne true mx l.fds l.buf with
    | incomplete => rw [drainAll_incomplete mx hc hl]; exact Or.inr hl
    | corrupt => rw [drainAll_corrupt mx hc hl]; exact Or.inl rfl
    | ok m n => rw [drainAll_ok mx hc hl]; exact ih m n hc hl

theorem drainAll_app (x : Bytes) : ∀ l, Equiv (drainAll mx ((drainAll mx l).app x)) (drainAll mx (l.app x)) := by
  refine framing_induction mx fun l ih => ?_
  by_cases hc : l.corrupted = true
  · rw [drainAll_corrupted mx hc]; exact Equiv.refl _
  · have hc' : ¬ (l.app x).corrupted = true := hc
    cases hl : loadOne true mx l.fds l.buf with
    | incomplete => rw [drainAll_incomplete mx hc hl]; exact Equiv.refl _
    | corrupt =>
      rw [drainAll_corrupt mx hc hl, drainAll_corrupt mx hc' (loadOne_corrupt_append x hl),
        drainAll_corrupted mx (l := Loader.app _ x) rfl]
      exact ⟨rfl, rfl, nofun⟩
    | ok m n =>
      have hstep : (l.app x).step m n = (l.step m n).app x := by
        simp only [Loader.app, Loader.step]
        rw [List.drop_append_of_le_length (loadOne_ok_bounds hl).2]
      rw [drainAll_ok mx hc hl, drainAll_ok mx hc' (loadOne_ok_append x hl), hstep]
      exact ih m n hc hl

theorem feed_corrupted (l : Loader) (c : Bytes) (h : l.corrupted = true) : l.feed mx c = l := by
  unfold Loader.feed
  rw [if_pos h]

theorem feed_eq (l : Loader) (c : Bytes) (h : ¬ l.corrupted = true) : l.feed mx c = drainAll mx (l.app c) := by
  unfold Loader.feed
  rw [if_neg h]
  exact congrArg (fun k => drain mx k (l.app c)) (by simp [Loader.app])

theorem feed_stable (l : Loader) (c : Bytes) (hs : Stable mx l) : Stable mx (l.feed mx c) := by
  by_cases hc : l.corrupted = true
  · rw [feed_corrupted mx l c hc]; exact hs
  · rw [feed_eq mx l c hc]; exact drainAll_is_stable mx _

theorem feed_feed (l : Loader) (c y : Bytes) : Equiv ((l.feed mx c).feed mx y) (l.feed mx (c ++ y)) := by
  by_cases hc : l.corrupted = true
  · rw [feed_corrupted mx l c hc, feed_corrupted mx l y hc, feed_corrupted mx l _ hc]
    exact Equiv.refl _
  · have happ : l.app (c ++ y) = (l.app c).app y := by simp [Loader.app]
    rw [feed_eq mx l c hc, feed_eq mx l (c ++ y) hc, happ]
    have h := drainAll_app mx y (l.app c)
    by_cases hd : (drainAll mx (l.app c)).corrupted = true
    · -- corrupt after `c`: nothing more happens, and `drainAll_app` says the same of the other side
      rw [drainAll_corrupted mx (l := Loader.app _ y) hd] at h
      rw [feed_corrupted mx _ y hd]
      have h0 : Equiv (drainAll mx (l.app c)) ((drainAll mx (l.app c)).app y) :=
        ⟨rfl, rfl, fun h' => by rw [hd] at h'; cases h'⟩
      exact Equiv.trans h0 h
    · rw [feed_eq mx _ y hd]
      exact h

theorem feed_nil (l : Loader) (hs : Stable mx l) : l.feed mx [] = l := by
  by_cases hc : l.corrupted = true
  · exact feed_corrupted mx l [] hc
  · have : l.app [] = l := by simp [Loader.app]
    rw [feed_eq mx l [] hc, this, drainAll_of_stable mx hs]

theorem foldl_feed_equiv : ∀ (cs : List Bytes) (l : Loader), Stable mx l →
    Equiv (cs.foldl (Loader.feed mx) l) (l.feed mx cs.flatten)
  | [], l, hs => by
    simp only [List.foldl_nil, List.flatten_nil]
    rw [feed_nil mx l hs]
    exact Equiv.refl _
  | c :: cs, l, hs => by
    simp only [List.foldl_cons, List.flatten_cons]
    exact Equiv.trans (foldl_feed_equiv cs (l.feed mx c) (feed_stable mx l c hs)) (feed_feed mx l c cs.flatten)

end Dbus.Proofs.Loader
