import Dbus.Proofs.AuthReplies
/-
  Where a statement speaks of the history (`run`, a `foldl` over `Op`s) and not only of the state reached, the history
  is taken apart from its end (`snoc_induction`, `run_snoc`).
-/
namespace Dbus.Proofs.Auth
open Dbus.Model.Auth

/-- what the mechanism in `s.mech` establishes, given the environment -/
def Established (env : Env) (s : S) : Prop :=
  match s.mech with
  | some .external => env.permits Mech.external.name ∧ ∃ u, env.sock.uid = some u ∧
      s.authorized = { uid := some u, pid := env.sock.pid, gids := env.sock.gids, label := env.sock.label }
  | some .cookie => env.permits Mech.cookie.name ∧ s.authorized = { uid := some env.selfUid, pid := env.sock.pid }
  | some .anonymous => env.permits Mech.anonymous.name ∧ s.authorized = { pid := env.sock.pid }
  | none => False

theorem established_congr {env : Env} {s t : S} (hm : t.mech = s.mech) (ha : t.authorized = s.authorized) :
    Established env t ↔ Established env s := by
  unfold Established; rw [hm, ha]

structure Inv (env : Env) (s : S) : Prop where
  auth : s.phase = .waitingForAuth →
    s.authorized = {} ∧ s.desired = {} ∧ s.identity = [] ∧ s.cookieId = none ∧ s.asked = false
  data : s.phase = .waitingForData → s.authorized = {} ∧
    ((s.mech = some .external ∧ env.permits Mech.external.name ∧ s.identity = [] ∧ s.desired = {} ∧ s.cookieId = none) ∨
     (s.mech = some .cookie ∧ env.permits Mech.cookie.name ∧ s.cookieId.isSome ∧ s.desired = { uid := some env.selfUid }))
  begun : s.phase = .waitingForBegin ∨ s.phase = .authenticated → Established env s
  cookie : s.cookieId.isSome → s.mech = some .cookie
  fails : s.failures ≤ MAX_FAILURES ∧ (s.phase ≠ .needDisconnect → s.failures < MAX_FAILURES)

theorem Inv.init (env : Env) (tape : List Choice) : Inv env { tape := tape } :=
  ⟨fun _ => ⟨rfl, rfl, rfl, rfl, rfl⟩, nofun, fun h => by simp at h, nofun, by simp [MAX_FAILURES]⟩

/-- covers `say s b`, which only appends to the outgoing buffer -/
theorem Inv.buffers {env : Env} {s : S} (h : Inv env s) (i o : Bytes) (t : List Choice) :
    Inv env { s with incoming := i, outgoing := o, tape := t } :=
  ⟨h.auth, h.data, h.begun, h.cookie, h.fails⟩

theorem Inv.disconnect {env : Env} {s : S} (h : Inv env s) : Inv env { s with phase := .needDisconnect } :=
  ⟨fun h => by simp at h, fun h => by simp at h, fun h => by simp at h, h.cookie, ⟨h.fails.1, fun h => by simp at h⟩⟩

theorem Inv.setMech {env : Env} {s : S} (h : Inv env s) (hph : s.phase = .waitingForAuth) (m : Option Mech) :
    Inv env { s with mech := m } := by
  obtain ⟨a1, a2, a3, a4, a5⟩ := h.auth hph
  refine ⟨fun _ => ⟨a1, a2, a3, a4, a5⟩, fun h' => ?_, fun h' => ?_, fun h' => ?_, h.fails⟩
  · rw [hph] at h'; cases h'
  · rw [hph] at h'; rcases h' with h' | h' <;> cases h'
  · rw [a4] at h'; cases h'

theorem Inv.of_established {env : Env} {s : S} (he : Established env s) (hc : s.cookieId.isSome → s.mech = some .cookie)
    (hf : s.failures < MAX_FAILURES) (hp : s.phase = .waitingForBegin ∨ s.phase = .authenticated) : Inv env s := by
  refine ⟨fun h => ?_, fun h => ?_, fun _ => he, hc, Nat.le_of_lt hf, fun _ => hf⟩
  all_goals rw [h] at hp; rcases hp with hp | hp <;> cases hp

theorem sendRejected_inv (env : Env) {s : S} (hc : s.cookieId.isSome → s.mech = some .cookie)
    (hf : s.failures < MAX_FAILURES) : Inv env (sendRejected env s) := by
  rw [sendRejected_eq]
  have hcid : (if s.mech = some .cookie then none else s.cookieId) = none := by
    split
    · rfl
    · rename_i hm
      exact Option.not_isSome_iff_eq_none.1 fun h => hm (hc h)
  refine ⟨fun _ => ⟨rfl, rfl, rfl, hcid, rfl⟩, fun h => ?_, fun h => ?_, fun h => ?_, ?_, fun h => ?_⟩
  · dsimp only at h; split at h <;> cases h
  · dsimp only at h; split at h <;> rcases h with h | h <;> cases h
  · dsimp only at h; rw [hcid] at h; cases h
  · exact hf
  · dsimp only at h ⊢; split at h
    · exact absurd rfl h
    · omega

/-- what can happen to a server-side conversation -/
inductive Op
  | feed (bs : Bytes)        -- bytes arrive, in any chunking
  | drain (n : Nat)          -- part of the replies is written out
  | oracle (t : List Choice) -- the environment commits to further choices (keyring, cookie, challenge)

def Op.apply (env : Env) (s : S) : Op → S
  | .feed bs => Dbus.Model.Auth.feed env s bs
  | .drain n => Dbus.Model.Auth.drain env s n
  | .oracle t => { s with tape := s.tape ++ t }

def run (env : Env) (ops : List Op) : S := ops.foldl (Op.apply env) {}

theorem run_snoc (env : Env) (ops : List Op) (op : Op) : run env (ops ++ [op]) = op.apply env (run env ops) := by
  simp only [run, List.foldl_append, List.foldl_cons, List.foldl_nil]

theorem snoc_induction {α : Type} {P : List α → Prop} (nil : P []) (snoc : ∀ l a, P l → P (l ++ [a])) (l : List α) :
    P l := by
  rw [← List.reverse_reverse l]
  induction l.reverse with
  | nil => exact nil
  | cons a r ih => rw [List.reverse_cons]; exact snoc _ _ ih

end Dbus.Proofs.Auth
