import Dbus.Model.Signature
/-
  Sound: by induction on the fuel, inverting each function that builds a result (`mkArray`, `closeDict`, `mkStruct`,
  `mkBasic`, `consField`) by its iff.  Complete: by recursion on the type, given two units of fuel per byte (`fuel_part`).
  Every signature validator is this parser, then a test of each type (`sigCheck_iff`, `singleCheck_iff`).
-/
namespace Dbus.Proofs
open Dbus.Spec Dbus.Model

theorem parseBasic_code (b : BTy) : parseBasic b.code = some b := by cases b <;> decide

theorem parseBasic_eq_some {c : UInt8} {b : BTy} : parseBasic c = some b ↔ c = b.code :=
  ⟨fun h => (by simpa using List.find?_some h : b.code = c).symm, fun h => h ▸ parseBasic_code b⟩

theorem code_ne (b : BTy) : b.code ≠ C_ARRAY ∧ b.code ≠ C_LPAREN ∧ b.code ≠ C_VARIANT ∧
    b.code ≠ C_RPAREN ∧ b.code ≠ C_LBRACE ∧ b.code ≠ C_RBRACE := by
  have h : ∀ c, parseBasic c = none → b.code ≠ c := fun c hc e => by
    rw [← e, parseBasic_code] at hc; cases hc
  exact ⟨h _ (by decide), h _ (by decide), h _ (by decide), h _ (by decide), h _ (by decide),
    h _ (by decide)⟩

theorem print_head (t : Ty) :
    ∃ c cs, t.print = c :: cs ∧ c ≠ C_RPAREN ∧ c ≠ C_LBRACE ∧ c ≠ C_RBRACE := by
  cases t with
  | basic b => exact ⟨b.code, [], by simp [Ty.print], (code_ne b).2.2.2⟩
  | variant => exact ⟨C_VARIANT, [], by simp [Ty.print], by decide, by decide, by decide⟩
  | array e => exact ⟨C_ARRAY, _, by rw [Ty.print], by decide, by decide, by decide⟩
  | struct fs => exact ⟨C_LPAREN, _, by rw [Ty.print], by decide, by decide, by decide⟩
  | dict k v => exact ⟨C_ARRAY, _, by rw [Ty.print], by decide, by decide, by decide⟩

theorem dictStart_eq_some {rest : Bytes} {k : UInt8} {r3 : Bytes} :
    dictStart rest = some (k, r3) ↔ rest = C_LBRACE :: k :: r3 := by
  refine ⟨fun h => ?_, fun h => by rw [h]; rfl⟩
  unfold dictStart at h
  split at h
  · split at h
    · rename_i hc; cases h; rw [hc]
    · cases h
  · cases h

theorem dictStart_print (t : Ty) (r : Bytes) : dictStart (t.print ++ r) = none := by
  obtain ⟨c, cs, hp, _, hb, _⟩ := print_head t
  rw [hp]
  unfold dictStart
  split
  · rename_i c2 k rest3 heq
    simp only [List.cons_append, List.cons.injEq] at heq
    rw [if_neg]; rw [← heq.1]; exact hb
  · rfl

theorem mkArray_eq_some {o : Option (Ty × Bytes)} {t : Ty} {r : Bytes} :
    mkArray o = some (t, r) ↔ ∃ e, o = some (e, r) ∧ t = .array e := by
  refine ⟨fun h => ?_, fun ⟨_, ho, ht⟩ => by rw [ho, ht]; rfl⟩
  unfold mkArray at h
  split at h
  · cases h; exact ⟨_, rfl, rfl⟩
  · cases h

theorem closeDict_eq_some {kb : BTy} {o : Option (Ty × Bytes)} {t : Ty} {r : Bytes} :
    closeDict kb o = some (t, r) ↔ ∃ v, o = some (v, C_RBRACE :: r) ∧ t = .dict kb v := by
  refine ⟨fun h => ?_, fun ⟨_, ho, ht⟩ => by rw [ho, ht]; rfl⟩
  unfold closeDict at h
  split at h
  · split at h
    · rename_i hc; cases h; exact ⟨_, by rw [hc], rfl⟩
    · cases h
  · cases h

theorem mkStruct_eq_some {o : Option (List Ty × Bytes)} {t : Ty} {r : Bytes} :
    mkStruct o = some (t, r) ↔ ∃ fs, o = some (fs, r) ∧ fs ≠ [] ∧ t = .struct fs := by
  refine ⟨fun h => ?_, fun ⟨_, ho, hne, ht⟩ => by rw [ho, ht, mkStruct, if_neg (by simpa using hne)]⟩
  unfold mkStruct at h
  split at h
  · split at h
    · cases h
    · rename_i hne; cases h; exact ⟨_, rfl, by simpa using hne, rfl⟩
  · cases h

theorem mkBasic_eq_some {rest : Bytes} {o : Option BTy} {t : Ty} {r : Bytes} :
    mkBasic rest o = some (t, r) ↔ ∃ b, o = some b ∧ t = .basic b ∧ r = rest := by
  refine ⟨fun h => ?_, fun ⟨_, ho, ht, hr⟩ => by rw [ho, ht, hr]; rfl⟩
  unfold mkBasic at h
  split at h
  · cases h; exact ⟨_, rfl, rfl, rfl⟩
  · cases h

theorem consField_eq_some {t : Ty} {o : Option (List Ty × Bytes)} {ts : List Ty} {r : Bytes} :
    consField t o = some (ts, r) ↔ ∃ ts', o = some (ts', r) ∧ ts = t :: ts' := by
  refine ⟨fun h => ?_, fun ⟨_, ho, ht⟩ => by rw [ho, ht]; rfl⟩
  unfold consField at h
  split at h
  · cases h; exact ⟨_, rfl, rfl⟩
  · cases h

theorem parse_sound (f : Nat) :
    (∀ bs t r, parseTy f bs = some (t, r) → bs = t.print ++ r ∧ t.WF) ∧
    (∀ bs ts r, parseFields f bs = some (ts, r) → bs = printList ts ++ C_RPAREN :: r ∧ WFList ts) := by
  induction f with
  | zero => exact ⟨fun _ _ _ h => by simp [parseTy] at h, fun _ _ _ h => by simp [parseFields] at h⟩
  | succ f ih =>
    obtain ⟨ihT, ihF⟩ := ih
    constructor
    · intro bs t r h
      cases bs with
      | nil => simp [parseTy] at h
      | cons c rest =>
        rw [parseTy] at h
        by_cases ha : c = C_ARRAY
        · rw [if_pos ha] at h
          cases hds : dictStart rest with
          | none =>
            rw [hds] at h
            obtain ⟨e, hp, rfl⟩ := mkArray_eq_some.1 h
            obtain ⟨rfl, hwf⟩ := ihT _ _ _ hp
            exact ⟨by rw [ha, Ty.print]; rfl, hwf⟩
          | some kr =>
            rw [hds] at h
            obtain rfl := dictStart_eq_some.1 hds
            cases hk : parseBasic kr.1 with
            | none => simp [hk] at h
            | some kb =>
              simp only [hk] at h
              obtain ⟨v, hp, rfl⟩ := closeDict_eq_some.1 h
              obtain ⟨hv, hwf⟩ := ihT _ _ _ hp
              exact ⟨by rw [ha, hv, parseBasic_eq_some.1 hk]; simp [Ty.print], hwf⟩
        rw [if_neg ha] at h
        by_cases hs : c = C_LPAREN
        · rw [if_pos hs] at h
          obtain ⟨fs, hp, hne, rfl⟩ := mkStruct_eq_some.1 h
          obtain ⟨rfl, hwf⟩ := ihF _ _ _ hp
          exact ⟨by rw [hs]; simp [Ty.print], hne, hwf⟩
        rw [if_neg hs] at h
        by_cases hv : c = C_VARIANT
        · rw [if_pos hv] at h
          cases h
          exact ⟨by rw [hv]; rfl, trivial⟩
        rw [if_neg hv] at h
        obtain ⟨b, hp, rfl, rfl⟩ := mkBasic_eq_some.1 h
        exact ⟨by rw [parseBasic_eq_some.1 hp]; rfl, trivial⟩
    · intro bs ts r h
      cases bs with
      | nil => simp [parseFields] at h
      | cons c rest =>
        rw [parseFields] at h
        by_cases hc : c = C_RPAREN
        · rw [if_pos hc] at h
          cases h
          exact ⟨by rw [hc]; rfl, trivial⟩
        rw [if_neg hc] at h
        cases hp : parseTy f (c :: rest) with
        | none => simp [hp] at h
        | some tr =>
          obtain ⟨t, r0⟩ := tr
          simp only [hp] at h
          obtain ⟨ts', hq, rfl⟩ := consField_eq_some.1 h
          obtain ⟨hv, hwf⟩ := ihT _ _ _ hp
          obtain ⟨rfl, hwf'⟩ := ihF _ _ _ hq
          exact ⟨by rw [hv]; simp [printList], hwf, hwf'⟩

theorem print_length_pos (t : Ty) : 1 ≤ t.print.length := by
  obtain ⟨c, cs, h, _⟩ := print_head t
  rw [h]; simp

/-- the parser spends one unit of fuel per call, and the bound allows two per byte -/
theorem fuel_part {n m f : Nat} (hnm : n < m) (h : 2 * m + 1 ≤ f + 1) : 2 * n + 2 ≤ f := by
  omega

mutual
theorem parseTy_complete : ∀ (t : Ty) (r : Bytes) (f : Nat), t.WF →
    2 * (t.print ++ r).length + 1 ≤ f → parseTy f (t.print ++ r) = some (t, r)
  | _, _, 0, _, hf => absurd hf (Nat.not_succ_le_zero _)
  | .basic b, r, f + 1, _, _ => by
    obtain ⟨h1, h2, h3, _⟩ := code_ne b
    simp only [Ty.print, List.cons_append, List.nil_append]
    rw [parseTy, if_neg h1, if_neg h2, if_neg h3, parseBasic_code]; rfl
  | .variant, r, f + 1, _, _ => by
    simp only [Ty.print, List.cons_append, List.nil_append]
    rw [parseTy, if_neg (by decide), if_neg (by decide), if_pos rfl]
  | .array e, r, f + 1, hwf, hf => by
    simp only [Ty.print, List.cons_append] at hf ⊢
    rw [parseTy, if_pos rfl, dictStart_print]
    simp only
    rw [parseTy_complete e r f (by simpa [Ty.WF] using hwf)
      (Nat.le_of_succ_le (fuel_part (Nat.lt_succ_self _) hf))]; rfl
  | .struct fs, r, f + 1, hwf, hf => by
    simp only [Ty.WF] at hwf
    simp only [Ty.print, List.cons_append, List.append_assoc, List.nil_append] at hf ⊢
    rw [parseTy, if_neg (by decide), if_pos rfl,
      parseFields_complete fs r f hwf.2 (fuel_part (Nat.lt_succ_self _) hf)]
    exact mkStruct_eq_some.2 ⟨fs, rfl, hwf.1, rfl⟩
  | .dict k v, r, f + 1, hwf, hf => by
    simp only [Ty.print, List.cons_append, List.append_assoc, List.nil_append] at hf ⊢
    rw [parseTy, if_pos rfl]
    simp only [dictStart, if_true, parseBasic_code]
    rw [parseTy_complete v (C_RBRACE :: r) f (by simpa [Ty.WF] using hwf)
      (Nat.le_of_succ_le (fuel_part
        (Nat.lt_succ_of_lt (Nat.lt_succ_of_lt (Nat.lt_succ_self _))) hf))]
    simp [closeDict]
theorem parseFields_complete : ∀ (ts : List Ty) (r : Bytes) (f : Nat), WFList ts →
    2 * (printList ts ++ C_RPAREN :: r).length + 2 ≤ f →
    parseFields f (printList ts ++ C_RPAREN :: r) = some (ts, r)
  | _, _, 0, _, hf => absurd hf (Nat.not_succ_le_zero _)
  | [], r, f + 1, _, _ => by
    simp only [printList, List.nil_append]
    rw [parseFields, if_pos rfl]
  | t :: ts, r, f + 1, hwf, hf => by
    simp only [WFList] at hwf
    simp only [printList, List.append_assoc] at hf ⊢
    have hT := parseTy_complete t (printList ts ++ C_RPAREN :: r) f hwf.1 (Nat.le_of_succ_le_succ hf)
    have hF := parseFields_complete ts r f hwf.2 (fuel_part
      (by simp only [List.length_append]; exact Nat.lt_add_of_pos_left (print_length_pos t))
      (Nat.le_of_succ_le hf))
    obtain ⟨c, cs, hp, hc, _⟩ := print_head t
    rw [hp] at hT ⊢
    simp only [List.cons_append] at hT ⊢
    rw [parseFields, if_neg hc, hT]
    simp only
    rw [hF]; rfl
end

theorem parseSeq_sound (f : Nat) (bs : Bytes) (ts : List Ty) (h : parseSeq f bs = some ts) :
    bs = printList ts ∧ WFList ts := by
  -- the cases: empty text; no fuel; no type; a type and no sequence after it; both
  fun_induction parseSeq f bs generalizing ts with
  | case1 f => cases h; exact ⟨rfl, trivial⟩
  | case2 c rest => cases h
  | case3 f c rest hp => cases h
  | case4 f c rest t r hp hq ih => cases h
  | case5 f c rest t r hp ts' hq ih =>
    cases h
    obtain ⟨hv, hwf⟩ := (parse_sound _).1 _ _ _ hp
    obtain ⟨rfl, hwf'⟩ := ih ts' hq
    exact ⟨hv, hwf, hwf'⟩

theorem parseSeq_complete : ∀ (ts : List Ty) (f : Nat), WFList ts → (printList ts).length ≤ f →
    parseSeq f (printList ts) = some ts
  | [], f, _, _ => by cases f <;> simp [printList, parseSeq]
  | t :: ts, f, hwf, hf => by
    simp only [WFList] at hwf
    obtain ⟨c, cs, hp, _⟩ := print_head t
    have hT := parseTy_complete t (printList ts) _ hwf.1 (Nat.le_refl _)
    simp only [printList] at hf ⊢
    rw [hp] at hT hf ⊢
    cases f with
    | zero => cases hf
    | succ f =>
      rw [List.cons_append, List.length_cons, List.length_append] at hf
      rw [List.cons_append, parseSeq, ← List.cons_append, hT]
      simp only
      rw [parseSeq_complete ts f hwf.2 (by omega)]

theorem parseSignature_eq_some (bs : Bytes) (ts : List Ty) :
    parseSignature bs = some ts ↔ bs = printList ts ∧ WFList ts :=
  ⟨parseSeq_sound _ _ _, fun ⟨h, hwf⟩ => h ▸ parseSeq_complete ts _ hwf (Nat.le_refl _)⟩

/-- the shape of every signature check: the parser, then a test `d` of each type -/
theorem sigCheck_iff {d : Ty → Bool} {D : Ty → Prop} (hd : ∀ t, d t = true ↔ D t) (bs : Bytes) :
    (match parseSignature bs with
      | none => false
      | some ts => ts.all d) = true ↔
      ∃ ts : List Ty, bs = printList ts ∧ WFList ts ∧ ∀ t ∈ ts, D t := by
  simp only [← parseSignature_eq_some, ← and_assoc]
  cases parseSignature bs <;> simp [hd]

theorem singleCheck_iff {d : Ty → Bool} {D : Ty → Prop} (hd : ∀ t, d t = true ↔ D t)
    (bs : Bytes) :
    (match parseSignature bs with
      | some [t] => d t
      | _ => false) = true ↔
      ∃ t : Ty, bs = t.print ∧ t.WF ∧ D t := by
  have h1 : ∀ t : Ty, (bs = t.print ∧ t.WF) ↔ parseSignature bs = some [t] := fun t => by
    simp [parseSignature_eq_some, printList, WFList]
  simp only [← and_assoc, h1]
  split
  next t ht => simp [ht, hd]
  next hno => exact ⟨nofun, fun ⟨t, ht, _⟩ => (hno t ht).elim⟩

theorem depthLax_iff (t : Ty) : depthLax t = true ↔ t.DepthLax := by
  unfold depthLax Ty.DepthLax
  simp [and_assoc]

theorem depthOK_iff (t : Ty) : depthOK t = true ↔ t.DepthOK := by
  unfold depthOK Ty.DepthOK
  simp [and_assoc]

theorem lead_le_arrayDepth : ∀ t : Ty, t.lead ≤ t.arrayDepth
  | .array e => by
    simp only [Ty.lead, Ty.arrayDepth]
    exact Nat.succ_le_succ (lead_le_arrayDepth e)
  | .dict _ _ => by
    simp only [Ty.lead, Ty.arrayDepth]
    exact Nat.succ_le_succ (Nat.zero_le _)
  | .basic _ | .variant | .struct _ => by simp [Ty.lead]

mutual
theorem maxRun_le_arrayDepth : ∀ t : Ty, t.maxRun ≤ t.arrayDepth
  | .basic _ => by simp [Ty.maxRun]
  | .variant => by simp [Ty.maxRun]
  | .array e => by
    simp only [Ty.maxRun, Ty.arrayDepth]
    exact Nat.max_le.2 ⟨Nat.succ_le_succ (lead_le_arrayDepth e),
      Nat.le_succ_of_le (maxRun_le_arrayDepth e)⟩
  | .struct fs => by
    simp only [Ty.maxRun, Ty.arrayDepth]
    exact maxRunList_le fs
  | .dict _ v => by
    simp only [Ty.maxRun, Ty.arrayDepth]
    exact Nat.max_le.2 ⟨Nat.succ_le_succ (Nat.zero_le _), Nat.le_succ_of_le (maxRun_le_arrayDepth v)⟩
theorem maxRunList_le : ∀ ts : List Ty, maxRunList ts ≤ arrayDepthList ts
  | [] => by simp [maxRunList, arrayDepthList]
  | t :: ts => by
    simp only [maxRunList, arrayDepthList]
    exact Nat.max_le.2 ⟨Nat.le_trans (maxRun_le_arrayDepth t) (Nat.le_max_left _ _),
      Nat.le_trans (maxRunList_le ts) (Nat.le_max_right _ _)⟩
end

theorem depthOK_lax (t : Ty) (h : t.DepthOK) : t.DepthLax :=
  ⟨Nat.le_trans (maxRun_le_arrayDepth t) h.1, h.2.1, h.2.2⟩

end Dbus.Proofs
