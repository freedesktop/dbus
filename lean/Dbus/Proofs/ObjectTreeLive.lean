import Dbus.Proofs.ObjectTree
/-
  The child listing (`_dbus_object_tree_list_registered_unlocked`) against the registered tree.
  Needs the invariant that unregistration maintains by pruning: below the root there is no
  subtree without a registration in it (`Live`: no dead branch).
-/
namespace Dbus.Proofs.Tree
open Dbus.Spec.Tree Dbus.Model.Tree

mutual
def hasReg : Node → Bool
  | .mk h _ cs => h.isSome || hasRegL cs
def hasRegL : List (Bytes × Node) → Bool
  | [] => false
  | (_, c) :: cs => hasReg c || hasRegL cs
end

mutual
def Live : Node → Prop
  | .mk _ _ cs => LiveL cs
def LiveL : List (Bytes × Node) → Prop
  | [] => True
  | (_, c) :: cs => hasReg c = true ∧ Live c ∧ LiveL cs
end

theorem hasReg_fresh : ∀ (p : Path) (r : Reg), hasReg (fresh p r) = true
  | [], r => by simp [fresh, hasReg]
  | e :: p, r => by simp [fresh, hasReg, hasRegL, hasReg_fresh p r]

theorem live_fresh : ∀ (p : Path) (r : Reg), Live (fresh p r)
  | [], r => by simp [fresh, Live, LiveL]
  | e :: p, r => by simp only [fresh, Live, LiveL]; exact ⟨hasReg_fresh p r, live_fresh p r, trivial⟩

theorem register_live (r : Reg) :
    (∀ n p n', registerN n p r = some n' → hasReg n' = true ∧ (Live n → Live n')) ∧
    (∀ cs e p cs', registerL cs e p r = some cs' → hasRegL cs' = true ∧ (LiveL cs → LiveL cs')) := by
  apply register_induct r
  case here => exact fun f cs => ⟨rfl, id⟩
  case below => exact fun h f cs e p cs' ih => ⟨by simp [hasReg, ih.1], ih.2⟩
  case first => exact fun e p => ⟨by simp [hasRegL, hasReg_fresh], fun _ => ⟨hasReg_fresh p r, live_fresh p r, trivial⟩⟩
  case found => exact fun e c cs p c' ih => ⟨by simp [hasRegL, ih.1], fun ⟨_, hc, hcs⟩ => ⟨ih.1, ih.2 hc, hcs⟩⟩
  case before =>
    exact fun k c cs e p _ => ⟨by simp [hasRegL, hasReg_fresh], fun h => ⟨hasReg_fresh p r, live_fresh p r, h⟩⟩
  case after =>
    exact fun k c cs e p cs' _ _ ih => ⟨by simp [hasRegL, ih.1], fun ⟨h, hc, hcs⟩ => ⟨h, hc, ih.2 hcs⟩⟩

theorem registerL_hasRegL : ∀ (cs : List (Bytes × Node)) (e : Bytes) (p : Path) (r : Reg) (cs' : List (Bytes × Node)),
    registerL cs e p r = some cs' → hasRegL cs' = true :=
  fun cs e p r cs' hr => ((register_live r).2 cs e p cs' hr).1

theorem registerN_live : ∀ (n : Node) (p : Path) (r : Reg) (n' : Node), Live n → registerN n p r = some n' → Live n' :=
  fun n p r n' hl hr => ((register_live r).1 n p n' hr).2 hl

theorem registerL_live : ∀ (cs : List (Bytes × Node)) (e : Bytes) (p : Path) (r : Reg) (cs' : List (Bytes × Node)),
    LiveL cs → registerL cs e p r = some cs' → LiveL cs' :=
  fun cs e p r cs' hl hr => ((register_live r).2 cs e p cs' hr).2 hl

theorem hasReg_of_not_dead : ∀ (c : Node), Live c → c.isDead = false → hasReg c = true
  | .mk (some _) _ _, _, _ => rfl
  | .mk none _ ((_, _) :: _), ⟨h, _⟩, _ => by simp [hasReg, hasRegL, h]

theorem unregister_live :
    (∀ n p n', unregisterN n p = some n' → Live n → Live n') ∧
    (∀ cs e p cs', unregisterL cs e p = some cs' → LiveL cs → LiveL cs') := by
  apply unregister_induct
  case here => exact fun id f cs h => h
  case below => exact fun h f cs e p cs' ih => ih
  case pruned => exact fun e c cs p c' _ _ h => h.2.2
  case kept => exact fun e c cs p c' hd ih ⟨_, hc, hcs⟩ => ⟨hasReg_of_not_dead c' (ih hc) hd, ih hc, hcs⟩
  case after => exact fun k c cs e p cs' _ ih ⟨h, hc, hcs⟩ => ⟨h, hc, ih hcs⟩

theorem unregisterN_live : ∀ (n : Node) (p : Path) (n' : Node), Live n → unregisterN n p = some n' → Live n' :=
  fun n p n' hl hr => unregister_live.1 n p n' hr hl

theorem unregisterL_live : ∀ (cs : List (Bytes × Node)) (e : Bytes) (p : Path) (cs' : List (Bytes × Node)),
    LiveL cs → unregisterL cs e p = some cs' → LiveL cs' :=
  fun cs e p cs' hl hr => unregister_live.2 cs e p cs' hr hl

mutual
theorem hasReg_lookup : ∀ (n : Node), WF n → hasReg n = true → ∃ q r, lookup n q = some r
  | .mk (some id) f _, _, _ => ⟨[], (f, id), rfl⟩
  | .mk none _ cs, ⟨hs, hw⟩, hr => by
    obtain ⟨e, q, r, hq⟩ := hasRegL_lookup cs hs hw hr
    exact ⟨e :: q, r, (lookup_cons _ e q).trans hq⟩
theorem hasRegL_lookup : ∀ (cs : List (Bytes × Node)), SortedKeys cs → WFL cs → hasRegL cs = true →
    ∃ e q r, lookupL cs e q = some r
  | [], _, _, hr => nomatch hr
  | (k, c) :: cs, ⟨hk, hs⟩, ⟨hwc, hw⟩, hr => by
    rcases Bool.or_eq_true_iff.1 hr with hr | hr
    · obtain ⟨q, r, hq⟩ := hasReg_lookup c hwc hr
      exact ⟨k, q, r, by rw [lookupL_cons, if_pos rfl, hq]⟩
    · -- a later key is not `k`: nothing is found under `k` in the rest of a sorted list
      obtain ⟨e, q, r, hq⟩ := hasRegL_lookup cs hs hw hr
      have hne : e ≠ k := fun he => by rw [he, lookupL_of_lt cs k q hk] at hq; cases hq
      exact ⟨e, q, r, by rw [lookupL_cons, if_neg hne, hq]⟩
end

theorem liveL_mem : ∀ (cs : List (Bytes × Node)) (e : Bytes) (c : Node), LiveL cs → (e, c) ∈ cs → hasReg c = true ∧ Live c
  | (k, c0) :: cs, e, c, ⟨hr, h0, hl⟩, h => by
    rcases List.mem_cons.1 h with heq | hmem
    · cases heq
      exact ⟨hr, h0⟩
    · exact liveL_mem cs e c hl hmem

/-- in a well-formed trie without dead branches, the names listed below `p` are exactly the next path
    elements of the registrations strictly below `p` -/
theorem children_iff : ∀ (p : Path) (n : Node), WF n → Live n → ∀ e,
    (e ∈ listChildren n p ↔ ∃ q r, lookup n (p ++ e :: q) = some r)
  | [], .mk h f cs, ⟨hs, hw⟩, hlv, e => by
    simp only [listChildren, lookupNode, Node.children, List.nil_append, lookup_cons, List.mem_map, lookupL]
    constructor
    · -- a listed child is live, so something is registered below it
      rintro ⟨⟨k, c⟩, hmem, rfl⟩
      obtain ⟨q, r, hq⟩ := hasReg_lookup c (wfl_mem cs k c hw hmem) (liveL_mem cs k c hlv hmem).1
      exact ⟨q, r, by rw [findChild_of_mem_sorted cs k c hs hmem]; exact hq⟩
    · rintro ⟨q, r, hq⟩
      cases hf : findChild cs e with
      | none => rw [hf] at hq; cases hq
      | some c => exact ⟨(e, c), findChild_some_mem cs e c hf, rfl⟩
  | x :: p, .mk h f cs, ⟨_, hw⟩, hlv, e => by
    simp only [listChildren_cons, Node.children, List.cons_append, lookup_cons, lookupL]
    cases hf : findChild cs x with
    | none => simp
    | some c =>
      have hmem := findChild_some_mem cs x c hf
      exact children_iff p c (wfl_mem cs x c hw hmem) (liveL_mem cs x c hlv hmem).2 e

end Dbus.Proofs.Tree
