import Dbus.Proofs.WireValue
import Dbus.Model.Encode
/-
  Every alignment divides 8, so the offset a value is placed at counts only modulo 8.  A field is a struct `(yv)` and pads
  itself to a multiple of 8, so whether it is well-formed does not depend on where in the field array it stands; removing
  a field moves the later ones to a smaller offset, and a smaller start never gives a later end (`fieldsEnd_mono`).
-/
namespace Dbus.Proofs.Message
open Dbus.Spec Dbus.Model Dbus.Proofs.Wire

/-! One congruence for both: two offsets that agree modulo 8, two byte orders.  The walk carries
the congruence of the offsets through every alignment (`align_congr`) and every advance
(`add_mod8`). -/

mutual
theorem encode_length_congr (e e' : Endian) : ∀ (v : Val) (off off' : Nat), off % 8 = off' % 8 →
    (encode e off v).length = (encode e' off' v).length
  | .fixed b n, off, off', h => by
    rw [encode_fixed_length, encode_fixed_length, (align_congr _ (bty_align_dvd b) h).1]
  | .str b s, off, off', h => by
    rw [encode_str_length, encode_str_length, (align_congr 4 ⟨2, rfl⟩ h).1]
  | .variant t v, off, off', h => by
    have h1 := align_congr _ (ty_align_dvd t) (add_mod8 h (Eq.refl (t.print.length + 2)))
    rw [encode_variant_length, encode_variant_length, encode_length_congr e e' v _ _ h1.2, h1.1]
  | .array et vs, off, off', h => by
    have h0 := align_congr 4 ⟨2, rfl⟩ h
    have h1 := align_congr _ (ty_align_dvd et) (add_mod8 h0.2 (Eq.refl 4))
    rw [encode_array_length, encode_array_length, encodeList_length_congr e e' vs _ _ h1.2, h1.1, h0.1]
  | .struct vs, off, off', h => by
    have h0 := align_congr 8 ⟨1, rfl⟩ h
    rw [encode_struct_length, encode_struct_length, encodeList_length_congr e e' vs _ _ h0.2, h0.1]
  | .dict k vt es, off, off', h => by
    have h0 := align_congr 4 ⟨2, rfl⟩ h
    have h1 := align_congr 8 ⟨1, rfl⟩ (add_mod8 h0.2 (Eq.refl 4))
    rw [encode_dict_length, encode_dict_length, encodeEntries_length_congr e e' es _ _ h1.2, h1.1, h0.1]
theorem encodeList_length_congr (e e' : Endian) : ∀ (vs : List Val) (off off' : Nat), off % 8 = off' % 8 →
    (encodeList e off vs).length = (encodeList e' off' vs).length
  | [], _, _, _ => rfl
  | v :: vs, off, off', h => by
    have hv := encode_length_congr e e' v off off' h
    rw [encodeList, encodeList, List.length_append, List.length_append,
      encodeList_length_congr e e' vs _ _ (add_mod8 h hv), hv]
theorem encodeEntries_length_congr (e e' : Endian) : ∀ (es : List (Val × Val)) (off off' : Nat),
    off % 8 = off' % 8 → (encodeEntries e off es).length = (encodeEntries e' off' es).length
  | [], _, _, _ => rfl
  | (k, v) :: es, off, off', h => by
    have h0 := align_congr 8 ⟨1, rfl⟩ h
    have hk := encode_length_congr e e' k _ _ h0.2
    have hv := encode_length_congr e e' v _ _ (add_mod8 h0.2 hk)
    simp only [encodeEntries, List.length_append, pad_length]
    rw [encodeEntries_length_congr e e' es _ _ (add_mod8 (add_mod8 h0.2 hk) hv), hv, hk, h0.1]
end

mutual
theorem wfVal_congr (e e' : Endian) : ∀ (v : Val) (t : Ty) (d off off' : Nat), off % 8 = off' % 8 →
    WFVal e d off v t → WFVal e' d off' v t
  | .fixed b n, t, d, off, off', _, h => wfVal_fixed_iff.2 (wfVal_fixed_iff.1 h)
  | .str b s, t, d, off, off', _, h => wfVal_str_iff.2 (wfVal_str_iff.1 h)
  | .variant t' v, t, d, off, off', hm, h => by
    obtain ⟨rfl, h1, h2, h3, h4, hv⟩ := wfVal_variant_iff.1 h
    have ho := align_congr _ (ty_align_dvd t') (add_mod8 hm (Eq.refl (t'.print.length + 2)))
    exact wfVal_variant_iff.2 ⟨rfl, h1, h2, h3, h4, wfVal_congr e e' v t' _ _ _ ho.2 hv⟩
  | .array et vs, t, d, off, off', hm, h => by
    obtain ⟨rfl, hl, hv⟩ := wfVal_array_iff.1 h
    have ho := (align_congr _ (ty_align_dvd et) (add_mod8 (align_congr 4 ⟨2, rfl⟩ hm).2 (Eq.refl 4))).2
    exact wfVal_array_iff.2 ⟨rfl, encodeList_length_congr e e' vs _ _ ho ▸ hl, wfElems_congr e e' vs et _ _ _ ho hv⟩
  | .struct vs, t, d, off, off', hm, h => by
    obtain ⟨ts, rfl, h1, h2, hv⟩ := wfVal_struct_iff.1 h
    exact wfVal_struct_iff.2 ⟨ts, rfl, h1, h2, wfFields_congr e e' vs ts _ _ _ (align_congr 8 ⟨1, rfl⟩ hm).2 hv⟩
  | .dict k vt es, t, d, off, off', hm, h => by
    obtain ⟨rfl, hl, hv⟩ := wfVal_dict_iff.1 h
    have ho := (align_congr 8 ⟨1, rfl⟩ (add_mod8 (align_congr 4 ⟨2, rfl⟩ hm).2 (Eq.refl 4))).2
    exact wfVal_dict_iff.2 ⟨rfl, encodeEntries_length_congr e e' es _ _ ho ▸ hl, wfEntries_congr e e' es k vt _ _ _ ho hv⟩
theorem wfFields_congr (e e' : Endian) : ∀ (vs : List Val) (ts : List Ty) (d off off' : Nat), off % 8 = off' % 8 →
    WFFields e d off vs ts → WFFields e' d off' vs ts
  | [], [], _, _, _, _, _ => trivial
  | v :: vs, t :: ts, d, off, off', hm, h =>
    ⟨wfVal_congr e e' v t d off off' hm h.1,
      wfFields_congr e e' vs ts d _ _ (add_mod8 hm (encode_length_congr e e' v off off' hm)) h.2⟩
  | [], _ :: _, _, _, _, _, h => h.elim
  | _ :: _, [], _, _, _, _, h => h.elim
theorem wfElems_congr (e e' : Endian) : ∀ (vs : List Val) (t : Ty) (d off off' : Nat), off % 8 = off' % 8 →
    WFElems e d off vs t → WFElems e' d off' vs t
  | [], _, _, _, _, _, _ => trivial
  | v :: vs, t, d, off, off', hm, h =>
    ⟨h.1, wfVal_congr e e' v t d off off' hm h.2.1,
      wfElems_congr e e' vs t d _ _ (add_mod8 hm (encode_length_congr e e' v off off' hm)) h.2.2⟩
theorem wfEntries_congr (e e' : Endian) : ∀ (es : List (Val × Val)) (kt : BTy) (vt : Ty) (d off off' : Nat),
    off % 8 = off' % 8 → WFEntries e d off es kt vt → WFEntries e' d off' es kt vt
  | [], _, _, _, _, _, _, _ => trivial
  | (k, v) :: es, kt, vt, d, _, _, hm, h =>
    have h0 := (align_congr 8 ⟨1, rfl⟩ hm).2
    have hk := add_mod8 h0 (encode_length_congr e e' k _ _ h0)
    have hv := add_mod8 hk (encode_length_congr e e' v _ _ hk)
    ⟨h.1, wfVal_congr e e' k _ d _ _ h0 h.2.1, wfVal_congr e e' v vt d _ _ hk h.2.2.1,
      wfEntries_congr e e' es kt vt d _ _ hv h.2.2.2⟩
end

theorem encode_length_mod8 (e : Endian) : ∀ (v : Val) (off off' : Nat), off % 8 = off' % 8 →
    (encode e off v).length = (encode e off' v).length :=
  encode_length_congr e e

theorem wfVal_mod8 (e : Endian) : ∀ (v : Val) (t : Ty) (d off off' : Nat), off % 8 = off' % 8 →
    WFVal e d off v t → WFVal e d off' v t :=
  wfVal_congr e e

theorem wfElems_mod8 (e : Endian) : ∀ (vs : List Val) (t : Ty) (d off off' : Nat), off % 8 = off' % 8 →
    WFElems e d off vs t → WFElems e d off' vs t :=
  wfElems_congr e e

theorem wfEntries_mod8 (e : Endian) : ∀ (es : List (Val × Val)) (kt : BTy) (vt : Ty) (d off off' : Nat),
    off % 8 = off' % 8 → WFEntries e d off es kt vt → WFEntries e d off' es kt vt :=
  wfEntries_congr e e

theorem wfVal_endian (e e' : Endian) : ∀ (v : Val) (t : Ty) (d off : Nat),
    WFVal e d off v t → WFVal e' d off v t :=
  fun v t d off => wfVal_congr e e' v t d off off rfl

theorem wfElems_endian (e e' : Endian) : ∀ (vs : List Val) (t : Ty) (d off : Nat),
    WFElems e d off vs t → WFElems e' d off vs t :=
  fun vs t d off => wfElems_congr e e' vs t d off off rfl

theorem wfEntries_endian (e e' : Endian) : ∀ (es : List (Val × Val)) (kt : BTy) (vt : Ty) (d off : Nat),
    WFEntries e d off es kt vt → WFEntries e' d off es kt vt :=
  fun es kt vt d off => wfEntries_congr e e' es kt vt d off off rfl

/-- the type of a header field, `(yv)` -/
abbrev FIELD_TY : Ty := .struct [.basic .byte, .variant]

theorem align8_mod (n : Nat) : align8 n % 8 = 0 := by
  unfold align8 padLen; omega

theorem le_align8 (n : Nat) : n ≤ align8 n := Nat.le_add_right ..

theorem align8_mono {a b : Nat} (h : a ≤ b) : align8 a ≤ align8 b := by
  unfold align8 padLen; omega

theorem wfVal_struct_off (e : Endian) (d off off' : Nat) (vs : List Val) (ts : List Ty)
    (h : WFVal e d off (.struct vs) (.struct ts)) : WFVal e d off' (.struct vs) (.struct ts) := by
  obtain ⟨_, h1, hne, hd, hf⟩ := wfVal_struct_iff.1 h
  cases h1
  exact wfVal_struct_iff.2 ⟨ts, rfl, hne, hd, wfFields_congr e e vs ts _ _ _ ((align8_mod off).trans (align8_mod off').symm) hf⟩

theorem encode_struct_length_zero (e : Endian) (off : Nat) (vs : List Val) :
    (encode e off (.struct vs)).length = padLen off 8 + (encodeList e 0 vs).length := by
  rw [encode_struct_length, encodeList_length_congr e e vs (off + padLen off 8) 0 (align8_mod off)]

/-- byte length of the header-fields array of a field list -/
def fieldsLen (e : Endian) (fs : List Field) : Nat := (encodeList e 16 (fs.map fieldVal)).length

theorem fieldsLen_endian (e e' : Endian) (fs : List Field) : fieldsLen e fs = fieldsLen e' fs :=
  encodeList_length_congr e e' _ 16 16 rfl

/-- one header field is well-formed (as an element of the field array, wherever it stands) -/
def FieldWF (e : Endian) (f : Field) : Prop := WFVal e 1 0 (fieldVal f) FIELD_TY

/-- `hv` at every depth and offset: basic values look at neither -/
theorem fieldWF_basic {e : Endian} {c : Nat} {b : BTy} {v : Val} (hc : c < 256)
    (hv : ∀ d off, WFVal e d off v (.basic b)) : FieldWF e { code := c, ty := .basic b, val := v } := by
  refine wfVal_struct_iff.2 ⟨_, rfl, nofun, by decide, ?_, ?_, trivial⟩
  · exact wfVal_fixed_iff.2 ⟨rfl, rfl, hc, nofun⟩
  · exact wfVal_variant_iff.2 ⟨rfl, trivial, ⟨Nat.zero_le _, Nat.zero_le _, Nat.zero_le _⟩,
      (by decide : 1 ≤ 255), by decide, hv _ _⟩

theorem wfElems_fields_iff (e : Endian) : ∀ (fs : List Field) (off : Nat),
    WFElems e 1 off (fs.map fieldVal) FIELD_TY ↔ ∀ f ∈ fs, FieldWF e f
  | [], off => ⟨fun _ _ h => (nomatch h), fun _ => trivial⟩
  | f :: fs, off => by
    rw [List.forall_mem_cons, ← wfElems_fields_iff e fs]
    exact ⟨fun ⟨_, h1, h2⟩ => ⟨wfVal_struct_off e 1 off 0 _ _ h1, h2⟩,
      fun ⟨h1, h2⟩ => ⟨fun _ => (by decide : 1 ≤ MAX_VALUE_DEPTH), wfVal_struct_off e 1 0 off _ _ h1, h2⟩⟩

/-- the field array behind the six fixed values starts at offset 16, wherever the array itself
    is said to start -/
theorem wfVal_fieldArray_raw (e : Endian) (X : Nat) (fv : List Val) :
    WFVal e 0 X (.array FIELD_TY fv) (.array FIELD_TY) ↔
      (encodeList e 16 fv).length ≤ MAX_ARRAY_LENGTH ∧ WFElems e 1 16 fv FIELD_TY := by
  have hm : (X + padLen X 4 + 4 + padLen (X + padLen X 4 + 4) FIELD_TY.align) % 8 = 16 % 8 := align8_mod _
  rw [wfVal_array_iff, and_iff_right rfl, encodeList_length_congr e e fv _ 16 hm]
  exact and_congr_right' ⟨wfElems_congr e e fv _ _ _ _ hm, wfElems_congr e e fv _ _ _ _ hm.symm⟩

theorem wfVal_fieldArray_iff (e : Endian) (X : Nat) (fs : List Field) :
    WFVal e 0 X (.array FIELD_TY (fs.map fieldVal)) (.array FIELD_TY) ↔
      fieldsLen e fs ≤ MAX_ARRAY_LENGTH ∧ ∀ f ∈ fs, FieldWF e f := by
  rw [wfVal_fieldArray_raw, wfElems_fields_iff, fieldsLen]

theorem wfVal_fixed_self_iff {e : Endian} {d off : Nat} {b : BTy} {n : Nat} (hb : b.isFixed = true)
    (hbool : b ≠ .bool) : WFVal e d off (.fixed b n) (.basic b) ↔ n < 256 ^ b.size := by
  rw [wfVal_fixed_iff]
  exact ⟨fun h => h.2.2.1, fun h => ⟨rfl, hb, h, fun hh => absurd hh hbool⟩⟩

/-- seven values of the shape `yyyyuua(yv)`: what the loader decodes at the front of a buffer, before it
    is known to be a header (`headerValues` is the case of a byte-order mark and a list of fields) -/
abbrev headerList (n0 n1 n2 n3 n4 n5 : Nat) (fv : List Val) : List Val :=
  [.fixed .byte n0, .fixed .byte n1, .fixed .byte n2, .fixed .byte n3, .fixed .u32 n4, .fixed .u32 n5,
   .array FIELD_TY fv]

theorem headerValues_eq (e : Endian) (mt fl ver bl ser : Nat) (fs : List Field) :
    headerValues e mt fl ver bl ser fs = headerList e.toByte.toNat mt fl ver bl ser (fs.map fieldVal) := rfl

theorem headerList_wf_iff (e : Endian) (n0 n1 n2 n3 n4 n5 : Nat) (fv : List Val) :
    WFFields e 0 0 (headerList n0 n1 n2 n3 n4 n5 fv) headerTypes ↔
      n0 < 256 ∧ n1 < 256 ∧ n2 < 256 ∧ n3 < 256 ∧ n4 < 256 ^ 4 ∧ n5 < 256 ^ 4 ∧
        (encodeList e 16 fv).length ≤ MAX_ARRAY_LENGTH ∧ WFElems e 1 16 fv FIELD_TY := by
  have hy : ∀ {d off n}, WFVal e d off (.fixed .byte n) (.basic .byte) ↔ n < 256 :=
    wfVal_fixed_self_iff rfl (by decide)
  have hu : ∀ {d off n}, WFVal e d off (.fixed .u32 n) (.basic .u32) ↔ n < 256 ^ 4 :=
    wfVal_fixed_self_iff rfl (by decide)
  simp only [headerTypes, WFFields, hy, hu, wfVal_fieldArray_raw, and_true]

theorem header_wf_iff (e : Endian) (mt fl ver bl ser : Nat) (fs : List Field) :
    WFFields e 0 0 (headerValues e mt fl ver bl ser fs) headerTypes ↔
      mt < 256 ∧ fl < 256 ∧ ver < 256 ∧ bl < 256 ^ 4 ∧ ser < 256 ^ 4 ∧
        fieldsLen e fs ≤ MAX_ARRAY_LENGTH ∧ ∀ f ∈ fs, FieldWF e f := by
  rw [headerValues_eq, headerList_wf_iff, wfElems_fields_iff, fieldsLen]
  exact and_iff_right e.toByte.toNat_lt

theorem header_wf_fields (e : Endian) (mt fl ver bl ser : Nat) (fs fs' : List Field)
    (h : WFFields e 0 0 (headerValues e mt fl ver bl ser fs) headerTypes)
    (hl : fieldsLen e fs' ≤ MAX_ARRAY_LENGTH) (hf : ∀ f ∈ fs', FieldWF e f) :
    WFFields e 0 0 (headerValues e mt fl ver bl ser fs') headerTypes := by
  rw [header_wf_iff] at h ⊢
  exact ⟨h.1, h.2.1, h.2.2.1, h.2.2.2.1, h.2.2.2.2.1, hl, hf⟩

theorem header_wf_fields_of (e : Endian) (mt fl ver bl ser : Nat) (fs : List Field)
    (h : WFFields e 0 0 (headerValues e mt fl ver bl ser fs) headerTypes) :
    fieldsLen e fs ≤ MAX_ARRAY_LENGTH ∧ ∀ f ∈ fs, FieldWF e f :=
  ((header_wf_iff ..).1 h).2.2.2.2.2

/-- where a list of fields written from offset `off` ends -/
def fieldsEnd (e : Endian) (off : Nat) (fs : List Field) : Nat := off + (encodeList e off (fs.map fieldVal)).length

/-- the field array of a header starts at offset 16 -/
theorem fieldsEnd_header (e : Endian) (fs : List Field) : fieldsEnd e 16 fs = 16 + fieldsLen e fs := rfl

theorem fieldsEnd_nil (e : Endian) (off : Nat) : fieldsEnd e off [] = off := rfl

theorem fieldsEnd_cons (e : Endian) (off : Nat) (f : Field) (fs : List Field) :
    fieldsEnd e off (f :: fs) =
      fieldsEnd e (align8 off + (encodeList e 0 [.fixed .byte f.code, .variant f.ty f.val]).length) fs := by
  unfold fieldsEnd align8
  rw [List.map_cons, encodeList, List.length_append, fieldVal, encode_struct_length_zero, Nat.add_assoc off,
    Nat.add_assoc off]

theorem fieldsEnd_mono (e : Endian) : ∀ (fs : List Field) (a b : Nat), a ≤ b → fieldsEnd e a fs ≤ fieldsEnd e b fs
  | [], _, _, h => h
  | f :: fs, a, b, h => by
    rw [fieldsEnd_cons, fieldsEnd_cons]
    exact fieldsEnd_mono e fs _ _ (Nat.add_le_add_right (align8_mono h) _)

theorem fieldsEnd_ge (e : Endian) (fs : List Field) (a : Nat) : a ≤ fieldsEnd e a fs := by
  unfold fieldsEnd; omega

theorem fieldsEnd_sublist (e : Endian) {fs' fs : List Field} (h : fs'.Sublist fs) :
    ∀ off, fieldsEnd e off fs' ≤ fieldsEnd e off fs := by
  induction h with
  | slnil => intro off; exact Nat.le_refl _
  | cons x _ ih =>
    intro off
    rw [fieldsEnd_cons]
    exact Nat.le_trans (ih off) (fieldsEnd_mono e _ _ _ (Nat.le_trans (le_align8 off) (Nat.le_add_right ..)))
  | cons_cons x _ ih =>
    intro off
    rw [fieldsEnd_cons, fieldsEnd_cons]
    exact ih _

theorem fieldsLen_sublist (e : Endian) {fs' fs : List Field} (h : fs'.Sublist fs) :
    fieldsLen e fs' ≤ fieldsLen e fs := by
  have := fieldsEnd_sublist e h 16
  rw [fieldsEnd_header, fieldsEnd_header] at this
  omega

theorem encodeList_append (e : Endian) : ∀ (vs ws : List Val) (off : Nat),
    encodeList e off (vs ++ ws) = encodeList e off vs ++ encodeList e (off + (encodeList e off vs).length) ws
  | [], ws, off => by simp [encodeList]
  | v :: vs, ws, off => by
    simp only [List.cons_append, encodeList, List.append_assoc, List.length_append]
    rw [encodeList_append e vs ws]
    simp [Nat.add_assoc]

theorem wfFields_append (e : Endian) : ∀ (vs : List Val) (ts : List Ty) (v : Val) (t : Ty) (d off : Nat),
    WFFields e d off vs ts → WFVal e d (off + (encodeList e off vs).length) v t → WFFields e d off (vs ++ [v]) (ts ++ [t])
  | [], [], v, t, d, off, _, hv => by
    simpa [WFFields, encodeList] using hv
  | w :: vs, u :: ts, v, t, d, off, h, hv => by
    simp only [WFFields, List.cons_append] at h ⊢
    refine ⟨h.1, wfFields_append e vs ts v t d _ h.2 ?_⟩
    simp only [encodeList, List.length_append] at hv
    rw [Nat.add_assoc]; exact hv
  | [], _ :: _, _, _, _, _, h, _ => by simp [WFFields] at h
  | _ :: _, [], _, _, _, _, h, _ => by simp [WFFields] at h

end Dbus.Proofs.Message
