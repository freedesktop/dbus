import Dbus.Model.Bus.Policy
/-
  `bus_client_policy_optimize` changes no decision: a rule that decides everything of its type makes
  the rules of that type before it irrelevant (last applicable rule wins), and a rule the optimizer
  takes for such a catch-all really applies to every message / name (the clause F17 was about).
-/
namespace Dbus.Proofs.PolicyOpt
open Dbus.Model.Bus

theorem foldl_verdict (l : List PRule) (ap : PRule → Bool) (acc : Bool) :
    l.foldl (fun acc r => if ap r then r.allow else acc) acc = if l.any ap then lastVerdict l ap else acc := by
  unfold lastVerdict
  induction l generalizing acc with
  | nil => rfl
  | cons x xs ih =>
    rw [List.foldl_cons, List.foldl_cons, ih, ih (if ap x then x.allow else false), List.any_cons]
    cases xs.any ap <;> cases ap x <;> rfl

theorem lastVerdict_append (l1 l2 : List PRule) (ap : PRule → Bool) :
    lastVerdict (l1 ++ l2) ap = if l2.any ap then lastVerdict l2 ap else lastVerdict l1 ap := by
  rw [lastVerdict, List.foldl_append, foldl_verdict]; rfl

theorem lastVerdict_filter (rs : List PRule) (ap : PRule → Bool) (keep : PRule → Bool)
    (h : ∀ r ∈ rs, keep r = false → ap r = false) : lastVerdict (rs.filter keep) ap = lastVerdict rs ap := by
  unfold lastVerdict
  generalize false = init
  induction rs generalizing init with
  | nil => rfl
  | cons r rs ih =>
    have ih := ih fun x hx => h x (List.mem_cons_of_mem _ hx)
    cases hk : keep r
    · rw [List.filter_cons_of_neg (by simp [hk]), List.foldl_cons, h r List.mem_cons_self hk]; exact ih _
    · rw [List.filter_cons_of_pos hk]; exact ih _

/-- **`bus_client_policy_optimize` changes no decision**, for any question `ap` that is about one type of rule `T` and that every
    catch-all rule of that type answers -/
theorem optimize_preserves (mx : Nat) (T : Nat) (ap : PRule → Bool)
    (h1 : ∀ r, ap r = true → r.typeNo = T) (h2 : ∀ r, r.catchAll mx = true → r.typeNo = T → ap r = true) (rs : List PRule) :
    lastVerdict (optimize mx rs) ap = lastVerdict rs ap := by
  suffices ∀ acc, lastVerdict (rs.foldl (optimizeStep mx) acc) ap = lastVerdict (acc ++ rs) ap from this []
  induction rs with
  | nil => intro acc; rw [List.append_nil]; rfl
  | cons r rs ih =>
    intro acc
    have hstep : lastVerdict (optimizeStep mx acc r) ap = lastVerdict (acc ++ [r]) ap := by
      rw [optimizeStep, lastVerdict_append, lastVerdict_append acc]
      cases har : ap r
      · -- `r` does not apply: if it is a catch-all it is of another type, and so are the rules it drops
        simp only [List.any_cons, har, List.any_nil, Bool.or_false, Bool.false_eq_true, if_false]
        split
        · rename_i hc
          apply lastVerdict_filter
          intro s _ hs
          have hs' : s.typeNo = r.typeNo := by simpa using hs
          refine Bool.eq_false_iff.mpr fun hap => ?_
          rw [h2 r hc (hs' ▸ h1 s hap)] at har
          cases har
        · rfl
      · -- `r` decides whatever came before
        simp only [List.any_cons, har, Bool.true_or, if_true]
    rw [List.foldl_cons, ih, lastVerdict_append, hstep, ← lastVerdict_append, List.append_assoc]; rfl

/- Each test of `sendApplies` / `receiveApplies` belongs to one attribute, and a rule without the attribute passes it:
   what is left for a catch-all are the fd range (full) and the two modifiers. -/

theorem fdsSkips_full (r : MsgRule) (mx n : Nat) (h0 : r.minFds = 0) (h1 : r.maxFds = mx) : fdsSkips r mx n = false := by
  simp [fdsSkips, h0, h1]

theorem replySkips_catchAll (allow : Bool) (r : MsgRule) (isReply req : Bool)
    (h : (if allow then (!r.requestedReply || r.eavesdrop) else r.requestedReply) = true) :
    replySkips allow r isReply req = false := by
  unfold replySkips
  revert h
  cases allow <;> cases r.requestedReply <;> cases r.eavesdrop <;> simp

theorem catchAll_send_applies (mx : Nat) (allow : Bool) (m : MsgRule) (v : MsgView) (req : Bool) (recv : PeerInfo)
    (h : (PRule.catchAll mx { allow := allow, kind := .send m }) = true) : sendApplies mx allow m v req recv = true := by
  simp only [PRule.catchAll, Bool.and_eq_true, beq_iff_eq, Option.isNone_iff_eq_none] at h
  simp [sendApplies, h, optMismatch, ifaceSkips, broadcastSkips, peerSkipsSend, fdsSkips_full, replySkips_catchAll]

theorem catchAll_receive_applies (mx : Nat) (allow : Bool) (m : MsgRule) (v : MsgView) (req eav : Bool) (snd : PeerInfo)
    (h : (PRule.catchAll mx { allow := allow, kind := .receive m }) = true) : receiveApplies mx allow m v req eav snd = true := by
  simp only [PRule.catchAll, Bool.and_eq_true, beq_iff_eq, Option.isNone_iff_eq_none] at h
  -- the modifier clause of a receive catch-all implies the one of a send catch-all
  have hr : replySkips allow m v.isReply req = false :=
    replySkips_catchAll allow m _ _ (by cases allow <;> simp_all)
  have he : eavesSkips allow m eav = false := by
    unfold eavesSkips; cases allow <;> simp_all
  simp [receiveApplies, h, optMismatch, ifaceSkips, peerSkipsReceive, fdsSkips_full, hr, he]

theorem catchAll_own_applies (mx : Nat) (allow : Bool) (n : Option Bytes) (p : Bool) (name : Bytes)
    (h : (PRule.catchAll mx { allow := allow, kind := .own n p }) = true) : ownApplies n p name = true := by
  have hn : n = none := by simpa [PRule.catchAll] using h
  subst hn
  cases p <;> rfl

theorem canSend_optimize (mx : Nat) (rs : List PRule) (v : MsgView) (req : Bool) (recv : PeerInfo) :
    canSend mx (optimize mx rs) v req recv = canSend mx rs v req recv := by
  refine optimize_preserves mx 0 _ ?_ ?_ rs
  · rintro ⟨a, k⟩ h
    cases k with
    | send _ => rfl
    | _ => cases h
  · rintro ⟨a, k⟩ hc hT
    cases k with
    | send m => exact catchAll_send_applies mx a m v req recv hc
    | _ => cases hT

theorem canReceive_optimize (mx : Nat) (rs : List PRule) (v : MsgView) (req eav : Bool) (snd : PeerInfo) :
    canReceive mx (optimize mx rs) v req eav snd = canReceive mx rs v req eav snd := by
  refine optimize_preserves mx 1 _ ?_ ?_ rs
  · rintro ⟨a, k⟩ h
    cases k with
    | receive _ => rfl
    | _ => cases h
  · rintro ⟨a, k⟩ hc hT
    cases k with
    | receive m => exact catchAll_receive_applies mx a m v req eav snd hc
    | _ => cases hT

theorem canOwn_optimize (mx : Nat) (rs : List PRule) (name : Bytes) :
    canOwn (optimize mx rs) name = canOwn rs name := by
  refine optimize_preserves mx 2 _ ?_ ?_ rs
  · rintro ⟨a, k⟩ h
    cases k with
    | own _ _ => rfl
    | _ => cases h
  · rintro ⟨a, k⟩ hc hT
    cases k with
    | own n p => exact catchAll_own_applies mx a n p name hc
    | _ => cases hT

end Dbus.Proofs.PolicyOpt
