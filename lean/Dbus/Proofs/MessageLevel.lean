import Dbus.Proofs.LoadOne
import Dbus.Proofs.Fields
/-
  A wire image is three parts, `H ++ (P ++ (B ++ rest))`: the encoded header values (16 fixed bytes and the field
  array), zero padding to a multiple of 8, the body.  Both directions of "`loadOne` accepts exactly the wire images of
  well-formed messages" go stage by stage through `loadOne` and meet at this layout.
-/
namespace Dbus.Proofs.Message
open Dbus.Spec Dbus.Model Dbus.Proofs.Wire Dbus.Proofs.Loader

/-- A well-formed message, for a loader with maximum message size `mx` that has received
    `fds` descriptors: fixed-header values in range, protocol version 1, serial and type
    non-zero; every header field a well-formed `(yv)` struct; known fields of the prescribed
    type, at most once, with valid contents and not the reserved local names, code 0 absent;
    the fields mandatory for the message type present; the body typed by the SIGNATURE field
    and well-formed; sizes within the limits; UNIX_FDS covered by received descriptors. -/
structure WFMsg (mx fds : Nat) (m : Msg) : Prop where
  mtype_ne : m.mtype ≠ 0
  version_eq : m.version = 1
  serial_ne : m.serial ≠ 0
  header_wf : WFFields m.endian 0 0
    (headerValues m.endian m.mtype m.flags m.version (encodeBody m).length m.serial m.fields) headerTypes
  fields_ok : checkFields true m.fields [] = true
  mandatory : mandatoryOK m.mtype m.fields = true
  body_types : bodyTypesOf m.fields = some m.bodyTypes
  body_wf : WFFields m.endian 0 0 m.body m.bodyTypes
  falen_le : fieldsLen m.endian m.fields ≤ mx
  blen_le : (encodeBody m).length ≤ mx
  total_le : align8 (16 + fieldsLen m.endian m.fields) + (encodeBody m).length ≤ mx
  fds_ok : unixFdsOf m.fields ≤ fds

theorem take_total (f : Frame) (bs : Bytes) :
    bs.take f.total = bs.take (16 + f.falen) ++ (headerPadding f bs ++ bodyBytes f bs) := by
  have hge := hlen_ge f
  have h : f.total = (16 + f.falen) + ((f.hlen - (16 + f.falen)) + f.blen) := by unfold Frame.total; omega
  have h' : 16 + f.falen + (f.hlen - (16 + f.falen)) = f.hlen := by omega
  rw [h, List.take_add (i := 16 + f.falen), List.take_add (i := f.hlen - (16 + f.falen)), List.drop_drop, h']
  rfl

theorem parts_of_frame (f : Frame) (H P B rest : Bytes) (hH : H.length = 16 + f.falen)
    (hP : P.length = padLen (16 + f.falen) 8) (hB : B.length = f.blen) :
    headerPadding f (H ++ (P ++ (B ++ rest))) = P ∧ bodyBytes f (H ++ (P ++ (B ++ rest))) = B := by
  have h1 : f.hlen - (16 + f.falen) = P.length := by rw [hP, hlen_sub]
  have h2 : (H ++ P).length = f.hlen := by rw [List.length_append, hH, hP]; rfl
  constructor
  · rw [headerPadding, h1, List.drop_left' hH, List.take_left]
  · rw [bodyBytes, ← List.append_assoc, List.drop_left' h2, ← hB, List.take_left]

def frameOfMsg (m : Msg) : Frame :=
  { e := m.endian, falen := fieldsLen m.endian m.fields, blen := (encodeBody m).length }

theorem headerValues_length (e : Endian) (mt fl ver bl ser : Nat) (fs : List Field) :
    (encodeList e 0 (headerValues e mt fl ver bl ser fs)).length = 16 + fieldsLen e fs :=
  header_length ..

theorem encodeMsg_parts (m : Msg) (rest : Bytes) :
    encodeMsg m ++ rest =
      encodeList m.endian 0 (headerValues m.endian m.mtype m.flags m.version (encodeBody m).length m.serial m.fields) ++
        (pad (16 + fieldsLen m.endian m.fields) 8 ++ (encodeBody m ++ rest)) := by
  rw [encodeMsg, encodeHeader, headerValues_length, List.append_assoc, List.append_assoc]

theorem encodeMsg_length (m : Msg) :
    (encodeMsg m).length = align8 (16 + fieldsLen m.endian m.fields) + (encodeBody m).length := by
  rw [← List.append_nil (encodeMsg m), encodeMsg_parts, List.length_append, List.length_append,
    headerValues_length, pad_length, List.append_nil, ← Nat.add_assoc]
  rfl

theorem encodeBody_length_endian (m : Msg) (e' : Endian) :
    (encodeBody { m with endian := e' }).length = (encodeBody m).length :=
  encodeList_length_congr e' m.endian m.body 0 0 rfl

theorem u32_bound {e : Endian} {d off n : Nat} (h : WFVal e d off (.fixed .u32 n) (.basic .u32)) : n < 256 ^ 4 :=
  (wfVal_fixed_iff.1 h).2.2.1

/-- **Completeness at message level**: the wire image of every well-formed message, followed
    by anything, is loaded as exactly that message and consumes exactly its image. -/
theorem loadOne_encodeMsg {mx fds : Nat} {m : Msg} (h : WFMsg mx fds m) (rest : Bytes) :
    loadOne true mx fds (encodeMsg m ++ rest) = .ok m (encodeMsg m).length := by
  obtain ⟨_, _, _, hbl, _, hfl, _⟩ := (header_wf_iff ..).1 h.header_wf
  have hparts := encodeMsg_parts m rest
  have hlen : (encodeMsg m ++ rest).length = (encodeMsg m).length + rest.length := List.length_append
  have hmlen := encodeMsg_length m
  have hframe : frameOf mx (encodeMsg m ++ rest) = .framed (frameOfMsg m) := by
    rw [hparts, headerValues_eq, frameOf_headerList mx m.endian _ _ UInt8.ofNat_toNat hbl
      (Nat.lt_of_le_of_lt hfl (by decide)), ← headerValues_eq, ← hparts]
    exact frameCore_eq_framed.2 ⟨rfl, h.falen_le, h.blen_le, h.total_le,
      by rw [hlen, hmlen]; exact Nat.le_add_right ..⟩
  have hvals : headerVals (frameOfMsg m) (encodeMsg m ++ rest) =
      some (m.mtype, m.flags, m.version, m.serial, m.fields.map fieldVal) :=
    headerVals_eq_some.2 ⟨_, _, _, hparts, h.header_wf⟩
  obtain ⟨hpad, hbody⟩ := parts_of_frame (frameOfMsg m)
    (encodeList m.endian 0 (headerValues m.endian m.mtype m.flags m.version (encodeBody m).length m.serial m.fields))
    (pad (16 + fieldsLen m.endian m.fields) 8) (encodeBody m) rest (headerValues_length ..) (pad_length ..) rfl
  rw [← hparts] at hpad hbody
  have hcheck : checkHeader true (frameOfMsg m) (encodeMsg m ++ rest) m.mtype m.version m.serial
      (m.fields.map fieldVal) = some m.fields :=
    checkHeader_eq_some.2 ⟨by rw [hpad]; simp [pad], h.mtype_ne, h.version_eq, h.serial_ne, rfl,
      h.fields_ok, h.mandatory⟩
  have hbvals : bodyVals (fuelFor (encodeMsg m ++ rest).length) (frameOfMsg m) m.fields (encodeMsg m ++ rest) =
      some (m.bodyTypes, m.body) := by
    refine bodyVals_eq_some.2 ⟨h.body_types, ?_⟩
    rw [hbody]
    exact (decodeFields_iff_of_fuel m.endian (fuelFor_mono (by show (encodeBody m).length ≤ _; omega))).2
      ⟨(List.append_nil _).symm, h.body_wf⟩
  exact loadOne_eq_ok.2 ⟨_, _, hframe, hvals, hcheck, hbvals, h.fds_ok, rfl, hmlen⟩

/-- **Soundness at message level**: what `loadOne` returns as a message is a well-formed
    message whose wire image is exactly the bytes consumed. -/
theorem loadOne_sound {mx fds : Nat} {bs : Bytes} {m : Msg} {n : Nat}
    (h : loadOne true mx fds bs = .ok m n) :
    n ≤ bs.length ∧ bs.take n = encodeMsg m ∧ WFMsg mx fds m := by
  obtain ⟨e, mt, fl, ver, ser, fs, bt, bd⟩ := m
  obtain ⟨f, fv, hf, hh, hc, hb, hfds, rfl, rfl⟩ := loadOne_eq_ok.1 h
  obtain ⟨_, _, _, _, htot, hmx, hmxf, hmxb⟩ := frameOf_framed hf
  -- the header: seven well-formed values at the front of the buffer, agreeing with the frame
  obtain ⟨n0, bl, r, hbs, hwf⟩ := headerVals_eq_some.1 hh
  obtain ⟨hpad, hmt, hver, hser, rfl, hcf, hman⟩ := checkHeader_eq_some.1 hc
  obtain ⟨rfl, hbl, (hfa : f.falen = fieldsLen f.e fs)⟩ := frame_of_header hf hbs hwf
  -- the body: exactly `blen` bytes, the encoding of the values returned
  obtain ⟨hbt, hbd⟩ := bodyVals_eq_some.1 hb
  obtain ⟨hbody, hbwf, _⟩ := decodeFields_eq_some.1 hbd
  rw [List.append_nil] at hbody
  have hblen : (encodeList f.e 0 bd).length = bl := by rw [← hbody, bodyBytes_length htot, hbl]
  subst hblen
  refine ⟨htot, ?_, ?_⟩
  · have hpadding : headerPadding f bs = pad (16 + fieldsLen f.e fs) 8 :=
      all_zero_pad _ _ _ hpad (hfa ▸ headerPadding_length htot)
    rw [take_total, hpadding, hbody, ← List.append_nil (encodeMsg _), encodeMsg_parts, List.append_nil]
    congr 1
    rw [hbs, List.take_left' (by rw [hfa]; exact headerValues_length ..)]
    rfl
  · rw [Frame.total, Frame.hlen, hfa, hbl] at hmx
    exact {
      mtype_ne := hmt, version_eq := hver, serial_ne := hser, header_wf := hwf, fields_ok := hcf
      mandatory := hman, body_types := hbt, body_wf := hbwf
      falen_le := hfa ▸ hmxf, blen_le := hbl ▸ hmxb, total_le := hmx, fds_ok := hfds }

/-- `loadOne` sees only the message: soundness, then completeness with another rest -/
theorem loadOne_ok_of_take {mx fds : Nat} {bs bs' : Bytes} {m : Msg} {n : Nat}
    (h : loadOne true mx fds bs = .ok m n) (hn : n ≤ bs'.length) (ht : bs'.take n = bs.take n) :
    loadOne true mx fds bs' = .ok m n := by
  obtain ⟨_, htake, hwf⟩ := loadOne_sound h
  have h' := loadOne_encodeMsg hwf (bs'.drop n)
  rwa [← htake, ← ht, List.take_append_drop, List.length_take_of_le hn] at h'

theorem loadOne_ok_append {mx fds : Nat} {bs : Bytes} {m : Msg} {n : Nat} (x : Bytes)
    (h : loadOne true mx fds bs = .ok m n) : loadOne true mx fds (bs ++ x) = .ok m n :=
  have hn := (loadOne_sound h).1
  loadOne_ok_of_take h (by rw [List.length_append]; omega) (List.take_append_of_le_length hn)

/-- a corruption verdict is final too: the fixed-header check is (`frameOf_append`), and a
    message accepted from the longer buffer would lie inside the shorter one -/
theorem loadOne_corrupt_append {mx fds : Nat} {bs : Bytes} (x : Bytes)
    (h : loadOne true mx fds bs = .corrupt) : loadOne true mx fds (bs ++ x) = .corrupt := by
  cases hf : frameOf mx bs with
  | incomplete => rw [loadOne, hf] at h; cases h
  | corrupt => rw [loadOne, frameOf_append mx bs x (by rw [hf]; nofun), hf]
  | framed f =>
    rcases loadOne_of_framed true fds (frameOf_append_framed hf x) with hc | ⟨m, hok⟩
    · exact hc
    · have hn : f.total ≤ bs.length := (frameOf_framed hf).2.2.2.2.1
      rw [loadOne_ok_of_take hok hn (List.take_append_of_le_length hn).symm] at h
      cases h

theorem wfMsg_endian {mx fds : Nat} {m : Msg} (e' : Endian) (h : WFMsg mx fds m) :
    WFMsg mx fds { m with endian := e' } := by
  have hb := encodeBody_length_endian m e'
  have hf := fieldsLen_endian e' m.endian m.fields
  obtain ⟨h1, h2, h3, h4, h5, h6, h7⟩ := (header_wf_iff ..).1 h.header_wf
  exact {
    mtype_ne := h.mtype_ne, version_eq := h.version_eq, serial_ne := h.serial_ne
    header_wf := (header_wf_iff ..).2
      ⟨h1, h2, h3, hb ▸ h4, h5, hf ▸ h6, fun f hm => wfVal_congr m.endian e' _ _ _ _ _ rfl (h7 f hm)⟩
    fields_ok := h.fields_ok, mandatory := h.mandatory, body_types := h.body_types
    body_wf := wfFields_congr m.endian e' _ _ _ _ _ rfl h.body_wf
    falen_le := hf ▸ h.falen_le, blen_le := hb ▸ h.blen_le
    total_le := hf ▸ hb ▸ h.total_le, fds_ok := h.fds_ok }

/-- `hsig`, `hfd`: the body is typed by SIGNATURE and the descriptors are counted by UNIX_FDS, so
    the new fields must agree with the old in these two -/
theorem wfMsg_fields {mx fds : Nat} {m : Msg} (h : WFMsg mx fds m) (fs : List Field)
    (hsz : fieldsLen m.endian fs ≤ MAX_ARRAY_LENGTH ∧ fieldsLen m.endian fs ≤ mx ∧
      align8 (16 + fieldsLen m.endian fs) + (encodeBody m).length ≤ mx)
    (hwf : ∀ f ∈ fs, FieldWF m.endian f) (hck : checkFields true fs [] = true)
    (hman : mandatoryOK m.mtype fs = true) (hsig : getField fs FIELD_SIGNATURE = getField m.fields FIELD_SIGNATURE)
    (hfd : getField fs FIELD_UNIX_FDS = getField m.fields FIELD_UNIX_FDS) :
    WFMsg mx fds { m with fields := fs } :=
  { mtype_ne := h.mtype_ne, version_eq := h.version_eq, serial_ne := h.serial_ne
    header_wf := header_wf_fields _ _ _ _ _ _ m.fields fs h.header_wf hsz.1 hwf
    fields_ok := hck, mandatory := hman
    body_types := (bodyTypesOf_congr hsig).trans h.body_types, body_wf := h.body_wf
    falen_le := hsz.2.1, blen_le := h.blen_le, total_le := hsz.2.2
    fds_ok := (unixFdsOf_congr hfd).symm ▸ h.fds_ok }

/-- with fewer fields the field array has not grown (`fieldsLen_sublist`): only the clauses that ask for a
    field remain -/
theorem wfMsg_sublist {mx fds : Nat} {m : Msg} (h : WFMsg mx fds m) {fs : List Field} (hs : fs.Sublist m.fields)
    (hman : mandatoryOK m.mtype fs = true) (hsig : getField fs FIELD_SIGNATURE = getField m.fields FIELD_SIGNATURE)
    (hfd : getField fs FIELD_UNIX_FDS = getField m.fields FIELD_UNIX_FDS) :
    WFMsg mx fds { m with fields := fs } := by
  obtain ⟨hmax, hold⟩ := header_wf_fields_of _ _ _ _ _ _ _ h.header_wf
  have hle := fieldsLen_sublist m.endian hs
  exact wfMsg_fields h fs
    ⟨Nat.le_trans hle hmax, Nat.le_trans hle h.falen_le,
      Nat.le_trans (Nat.add_le_add_right (align8_mono (Nat.add_le_add_left hle 16)) _) h.total_le⟩
    (fun g hg => hold g (hs.subset hg)) (checkFields_sublist hs h.fields_ok) hman hsig hfd

theorem loadOne_encodeMsg_self {mx fds : Nat} {m : Msg} (h : WFMsg mx fds m) :
    loadOne true mx fds (encodeMsg m) = .ok m (encodeMsg m).length := by
  simpa using loadOne_encodeMsg h []

end Dbus.Proofs.Message
