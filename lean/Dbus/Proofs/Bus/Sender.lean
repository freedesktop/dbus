import Dbus.Proofs.Bus.Frame
import Dbus.Props.C12
namespace Dbus.Proofs.Bus
open Dbus.Spec Dbus.Model Dbus.Model.Bus

theorem known_deleteCI (fs : List Field) (hk : ∀ f ∈ fs, f.code ≤ 10) (hd : (fs.filter (·.code = 10)).length ≤ 1) :
    ∀ f ∈ deleteFieldList fs 10, f.code ≤ 9 := by
  intro f hf
  have h10 := hk f ((Dbus.Proofs.Message.deleteFieldList_sublist fs 10).subset hf)
  -- were it CONTAINER_INSTANCE, a lookup would still find one after the deletion
  have hne : f.code ≠ 10 := Dbus.Proofs.Message.getField_eq_none.1 (Dbus.Props.C12.delete_removes fs 10 hd) f hf
  omega

theorem known_strip {m0 : Msg} (h : (m0.fields.filter (·.code = 10)).length ≤ 1) : KnownFields (strip m0) := by
  unfold strip Msg.delField KnownFields
  simp only
  apply known_deleteCI
  · exact Dbus.Props.C12.removeUnknown_all_known _
  · exact Nat.le_trans ((Dbus.Proofs.Message.removeUnknownList_sublist _).filter _).length_le h

theorem builtin_ok (m x : Msg) (hx : x ∈ builtinReply m) : KnownFields x ∧ x.sender = none := by
  unfold builtinReply at hx
  split at hx
  · cases hx
  · rw [List.mem_singleton.mp hx]
    exact ⟨known_mkError _ _, sender_mkError_none _ _⟩

theorem peerFilter_ok (m : Msg) : KnownFields (peerFilterReply m) ∧ (peerFilterReply m).sender = none :=
  have ret := fun tys body => And.intro (known_mkReturn m tys body) (sender_mkReturn_none m tys body)
  iteInduction (motive := fun r : Msg => KnownFields r ∧ r.sender = none) (fun _ => ret ..) fun _ =>
    iteInduction (motive := fun r : Msg => KnownFields r ∧ r.sender = none) (fun _ => ret ..) fun _ =>
      ⟨known_mkError _ _, sender_mkError_none _ _⟩

/-- what a client can find in the sender field of something the bus hands it -/
def SenderOK (b b' : Bus) (c : ConnId) (m0 : Msg) (to : ConnId) (x : Msg) : Prop :=
  x.sender = some BUS_NAME ∨ x.sender = some (senderNameOf b c) ∨ x.sender = some (senderNameOf b' c) ∨
  (x.sender = none ∧ to = c ∧ (strip m0).dest = none)

/-- the loader lets a known field through once: that goes for CONTAINER_INSTANCE too -/
theorem checkFields_ci_once (fs : List Field) (h : checkFields true fs [] = true) : (fs.filter (·.code = 10)).length ≤ 1 :=
  Dbus.Proofs.Message.checkFields_once h (by decide)

end Dbus.Proofs.Bus
