import Dbus.Model.Bus.Registry
/-
  The owner-queue operations of bus/services.c against the specification's RequestName /
  ReleaseName rules (Dbus.Spec.Names): queue, reply code and signals.
-/
namespace Dbus.Proofs.Bus
open Dbus.Model.Bus Dbus.Spec.Names

theorem filter_ne_of_not_mem {rest : List Owner} {c : Nat} (h : c ∉ rest.map (·.conn)) :
    rest.filter (·.conn != c) = rest :=
  List.filter_eq_self.mpr fun _ hx => bne_iff_ne.mpr fun e => h (e ▸ List.mem_map_of_mem hx)

theorem filter_queueable {rest : List Owner} (h : ∀ o ∈ rest, o.noQueue = false) :
    rest.filter (fun x => !x.noQueue) = rest :=
  List.filter_eq_self.mpr fun x hx => by rw [h x hx]; rfl

theorem member_iff {os : List Owner} {c : Nat} : member os c = true ↔ c ∈ os.map (·.conn) := by
  simp [member, List.any_eq_true, beq_iff_eq]

theorem inQueue_iff {os : List Owner} {c : ConnId} : inQueue os c = true ↔ c ∈ os.map (·.conn) := member_iff

theorem not_member_filter (rest : List Owner) (c : Nat) : member (rest.filter (·.conn != c)) c = false := by
  simp [member]

theorem not_mem_of_member_false {rest : List Owner} {c : Nat} (h : member rest c = false) : c ∉ rest.map (·.conn) :=
  fun hm => Bool.false_ne_true (h ▸ member_iff.mpr hm)

@[simp] theorem mkOwner_conn (c flags : Nat) : (mkOwner c flags).conn = c := rfl
@[simp] theorem mkOwner_noQueue (c flags : Nat) : (mkOwner c flags).noQueue = flagNoQueue flags := rfl

/-- rules 3 and 4 of RequestName, and `bus_service_add_owner` without REPLACE_EXISTING -/
def enqueue (rest : List Owner) (e : Owner) : List Owner :=
  if member rest e.conn then rest.map (fun x => if x.conn == e.conn then e else x) else rest ++ [e]

theorem conns_enqueue (rest : List Owner) (e : Owner) :
    (enqueue rest e).map (·.conn) = if member rest e.conn then rest.map (·.conn) else rest.map (·.conn) ++ [e.conn] := by
  unfold enqueue
  split
  · rw [List.map_map]
    apply List.map_congr_left
    intro x _
    by_cases h : x.conn = e.conn <;> simp [h]
  · simp

theorem member_enqueue (rest : List Owner) (e : Owner) : member (enqueue rest e) e.conn = true := by
  rw [member_iff, conns_enqueue]
  cases h : member rest e.conn
  · simp
  · exact member_iff.mp h

theorem queueable_enqueue {rest : List Owner} {e : Owner} (hq : ∀ o ∈ rest, o.noQueue = false) (he : e.noQueue = false) :
    ∀ o ∈ enqueue rest e, o.noQueue = false := by
  intro o ho
  unfold enqueue at ho
  split at ho
  · obtain ⟨x, hx, rfl⟩ := List.mem_map.mp ho
    split
    · exact he
    · exact hq x hx
  · rcases List.mem_append.mp ho with h | h
    · exact hq o h
    · rw [List.mem_singleton.mp h]; exact he

/-- rule 5 of RequestName after rules 3 and 4 -/
theorem filter_enqueue {rest : List Owner} (e : Owner) (hq : ∀ o ∈ rest, o.noQueue = false) :
    (enqueue rest e).filter (fun x => !x.noQueue) =
      if e.noQueue then rest.filter (·.conn != e.conn) else enqueue rest e := by
  cases he : e.noQueue
  · exact filter_queueable (queueable_enqueue hq he)
  · unfold enqueue
    cases hm : member rest e.conn
    · -- appended, and pruned again
      rw [if_neg Bool.false_ne_true, List.filter_append, filter_queueable hq, List.filter_cons_of_neg (by simp [he]),
        List.filter_nil, List.append_nil, filter_ne_of_not_mem (not_mem_of_member_false hm)]
      rfl
    · -- refreshed where it stands, and pruned: the others pass both tests and stay as they are
      rw [if_pos rfl, List.filter_map]
      have hf : ∀ x ∈ rest, ((fun x : Owner => !x.noQueue) ∘ fun x => if x.conn == e.conn then e else x) x = (x.conn != e.conn) := by
        intro x hx
        by_cases hc : x.conn = e.conn <;> simp [hc, he, hq x hx]
      rw [List.filter_congr hf]
      exact (List.map_congr_left fun x hx => if_neg (by simpa using (List.mem_filter.mp hx).2)).trans (List.map_id _)

variable {p : Owner} {rest : List Owner} {c flags : Nat}

/- Both sides on a queue whose primary owner is somebody else.  With `A := p.allowRepl && flagReplace flags`
   and `N := flagNoQueue flags`, the two conditions of the C decision tree, `N && (!allow || !replace)` and
   `!N && (!replace || !allow)`, are `!A && N` and `!A && !N`: code and specification both ask `A` first. -/

theorem requestName_cons (hpc : p.conn ≠ c) (hq : ∀ o ∈ rest, o.noQueue = false) :
    requestName (p :: rest) c (flagAllow flags) (flagReplace flags) (flagNoQueue flags) =
      if p.allowRepl && flagReplace flags then
        mkOwner c flags :: ((if p.noQueue then [] else [p]) ++ rest.filter (·.conn != c))
      else p :: (if flagNoQueue flags then rest.filter (·.conn != c) else enqueue rest (mkOwner c flags)) := by
  have hpc' : (p.conn == c) = false := by simpa using hpc
  simp only [requestName, place, hpc', Bool.false_eq_true, if_false]
  cases hA : p.allowRepl && flagReplace flags
  · -- rules 3 and 4, then rule 5
    have hpl : (if member rest c then p :: rest.map (fun x => if x.conn == c then mkOwner c flags else x)
        else p :: (rest ++ [mkOwner c flags])) = p :: enqueue rest (mkOwner c flags) := by
      simp only [enqueue, mkOwner_conn]; exact (apply_ite (List.cons p) ..).symm
    simp only [Bool.false_eq_true, if_false]
    exact (congrArg prune hpl).trans (congrArg (p :: ·) (filter_enqueue _ hq))
  · -- rule 2, then rule 5
    have hq' : (rest.filter (·.conn != c)).filter (fun x => !x.noQueue) = rest.filter (·.conn != c) :=
      filter_queueable fun o ho => hq o (List.mem_filter.mp ho).1
    cases hn : p.noQueue <;> simp [prune, hn, hq', mkOwner]

theorem qAdd_cons (hpc : p.conn ≠ c) :
    qAdd (p :: rest) c flags =
      (p :: (if flagReplace flags then mkOwner c flags :: rest.filter (·.conn != c) else enqueue rest (mkOwner c flags)), []) := by
  have hne : (p.conn != c) = true := bne_iff_ne.mpr hpc
  have hin : inQueue (p :: rest) c = member rest c := by simp [inQueue, member, hpc]
  simp only [qAdd, hin, List.isEmpty_cons, Bool.or_false, Bool.false_eq_true, if_false]
  cases hr : flagReplace flags
  · cases hm : member rest c
    · simp [enqueue, hm]
    · simp [enqueue, hm, hpc]
  · cases hm : member rest c
    · simp [insertSecond, filter_ne_of_not_mem (not_mem_of_member_false hm)]
    · simp [insertSecond, hne]

theorem qAdd_new (q : List Owner) (c : ConnId) (flags : Nat) (hc : c ∉ q.map (·.conn)) :
    ∃ l₁ l₂, q = l₁ ++ l₂ ∧ (qAdd q c flags).1 = l₁ ++ mkOwner c flags :: l₂ := by
  have hin : inQueue q c = false := Bool.eq_false_iff.mpr (mt inQueue_iff.mp hc)
  simp only [qAdd, hin, Bool.false_eq_true, if_false]
  split
  · exact ⟨q, [], (List.append_nil q).symm, rfl⟩
  · cases q with
    | nil => exact ⟨[], [], rfl, rfl⟩
    | cons p rest => exact ⟨[p], rest, rfl, rfl⟩

theorem qAcquire_cons (hpc : p.conn ≠ c) :
    qAcquire (p :: rest) c flags =
      if p.allowRepl && flagReplace flags then
        (mkOwner c flags :: ((if p.noQueue then [] else [p]) ++ rest.filter (·.conn != c)), REPLY_PRIMARY,
          [.lost p.conn, .changed (some p.conn) (some c), .acquired c])
      else if flagNoQueue flags then (p :: rest.filter (·.conn != c), REPLY_EXISTS, [])
      else (p :: (if flagReplace flags then mkOwner c flags :: rest.filter (·.conn != c) else enqueue rest (mkOwner c flags)),
            REPLY_IN_QUEUE, []) := by
  have hne : (p.conn != c) = true := bne_iff_ne.mpr hpc
  have hpc' : (p.conn == c) = false := by simpa using hpc
  simp only [qAcquire, hpc', Bool.false_eq_true, if_false, qAdd_cons hpc, ← Bool.not_and, Bool.and_comm (flagReplace flags)]
  cases hA : p.allowRepl && flagReplace flags
  · cases hN : flagNoQueue flags <;> simp [hne]
  · have hr : flagReplace flags = true := ((Bool.and_eq_true _ _).mp hA).2
    cases hn : p.noQueue <;> simp [hr, qRemove, qSwap]

theorem qAcquire_nil : qAcquire [] c flags =
    ([mkOwner c flags], REPLY_PRIMARY, [.changed none (some c), .acquired c]) := by
  simp [qAcquire, qEnsure, qAdd, inQueue]

theorem qAcquire_self : qAcquire (p :: rest) p.conn flags = (mkOwner p.conn flags :: rest, REPLY_ALREADY, []) := by
  simp [qAcquire]

/-- only the primary owner may have set DO_NOT_QUEUE: anyone else who sets it is not kept waiting -/
structure QInv (os : List Owner) : Prop where
  nodup : (os.map (·.conn)).Nodup
  tail_queueable : ∀ o ∈ os.tail, o.noQueue = false

theorem qinv_nil : QInv [] := ⟨List.nodup_nil, by simp⟩

theorem qinv_cons {l : List Owner} :
    QInv (p :: l) ↔ p.conn ∉ l.map (·.conn) ∧ (l.map (·.conn)).Nodup ∧ ∀ o ∈ l, o.noQueue = false :=
  ⟨fun h => ⟨(List.nodup_cons.mp h.nodup).1, (List.nodup_cons.mp h.nodup).2, h.tail_queueable⟩,
   fun h => ⟨List.nodup_cons.mpr ⟨h.1, h.2.1⟩, h.2.2⟩⟩

theorem QInv.sublist {os l : List Owner} (hi : QInv os) (h : l.Sublist os) : QInv l :=
  ⟨hi.nodup.sublist (h.map _), fun o ho => hi.tail_queueable o (h.tail.subset ho)⟩

theorem qinv_cons_cons {a b : Owner} {l : List Owner} (hab : a.conn ≠ b.conn) (hb : b.noQueue = false)
    (ha : QInv (a :: l)) (hbl : QInv (b :: l)) : QInv (a :: b :: l) := by
  rw [qinv_cons] at ha hbl ⊢
  simp only [List.map_cons, List.mem_cons, List.nodup_cons, not_or]
  exact ⟨⟨hab, ha.1⟩, ⟨hbl.1, ha.2.1⟩, fun o ho => ho.elim (· ▸ hb) (ha.2.2 o)⟩

theorem qinv_cons_enqueue {e : Owner} (hi : QInv (p :: rest)) (hpe : p.conn ≠ e.conn) (he : e.noQueue = false) :
    QInv (p :: enqueue rest e) := by
  rw [qinv_cons] at hi ⊢
  obtain ⟨h1, h2, h3⟩ := hi
  rw [conns_enqueue]
  refine ⟨?_, ?_, queueable_enqueue h3 he⟩
  · split
    · exact h1
    · exact fun h => (List.mem_append.mp h).elim h1 fun h' => hpe (List.mem_singleton.mp h')
  · cases hm : member rest e.conn
    · exact List.nodup_append.mpr ⟨h2, List.pairwise_singleton _ _, fun a ha b hb hab =>
        not_mem_of_member_false hm (List.mem_singleton.mp hb ▸ hab ▸ ha)⟩
    · exact h2

/-- the requests on which `bus_service_add_owner` departs from the specification's queue order (F15): the caller
    asks to replace, would wait, and the primary owner does not allow replacement -/
def QueueJump (os : List Owner) (c : Nat) (flags : Nat) : Prop :=
  ∃ p rest, os = p :: rest ∧ p.conn ≠ c ∧ flagReplace flags = true ∧ flagNoQueue flags = false ∧
    p.allowRepl = false

def sigSpec : Sig → Signal
  | .lost c => .nameLost c
  | .acquired c => .nameAcquired c
  | .changed o n => .nameOwnerChanged o n

theorem signals_same (o : Option Nat) : signals o o = [] := by simp [signals]

theorem signals_change {a b : Nat} (h : a ≠ b) :
    signals (some a) (some b) = [.nameLost a, .nameOwnerChanged (some a) (some b), .nameAcquired b] := by
  simp [signals, h]

/-- `bus_registry_acquire_service` against RequestName: one walk along the decision tree, of which
    `qinv_qAcquire` and the first three statements of `Props.C04` are the parts -/
theorem qAcquire_spec (os : List Owner) (c flags : Nat) (hi : QInv os) :
    (¬ QueueJump os c flags →
      (qAcquire os c flags).1 = requestName os c (flagAllow flags) (flagReplace flags) (flagNoQueue flags)) ∧
    (qAcquire os c flags).2.1 = requestReply os c (flagAllow flags) (flagReplace flags) (flagNoQueue flags) ∧
    (qAcquire os c flags).2.2.map sigSpec = signals (primary os) (primary (qAcquire os c flags).1) ∧
    QInv (qAcquire os c flags).1 := by
  cases os with
  | nil =>
    rw [qAcquire_nil]
    exact ⟨fun _ => rfl, by simp [requestReply, requestName, place, prune, primary, REPLY_PRIMARY], rfl, by simp, by simp⟩
  | cons p rest =>
    obtain ⟨h1, h2, hq⟩ := qinv_cons.mp hi
    by_cases hpc : p.conn = c
    · subst hpc
      rw [qAcquire_self]
      exact ⟨fun _ => by simp [requestName, place, prune, filter_queueable hq, mkOwner],
        by simp [requestReply, primary, REPLY_ALREADY], (signals_same _).symm, qinv_cons.mpr ⟨h1, h2, hq⟩⟩
    · have hp : QInv (p :: rest.filter (·.conn != c)) := hi.sublist (List.filter_sublist.cons_cons p)
      have he : QInv (mkOwner c flags :: rest.filter (·.conn != c)) :=
        qinv_cons.mpr ⟨not_mem_of_member_false (not_member_filter rest c), (qinv_cons.mp hp).2⟩
      have hcp : ∀ l, (primary (p :: l) == some c) = false := fun l => by simp [primary, hpc]
      have hmem : ∀ l, member (p :: l) c = member l c := fun l => by simp [member, hpc]
      have hme : member (enqueue rest (mkOwner c flags)) c = true := member_enqueue rest (mkOwner c flags)
      simp only [requestReply, hcp, Bool.false_eq_true, if_false, requestName_cons hpc hq, qAcquire_cons hpc]
      cases hA : p.allowRepl && flagReplace flags
      · simp only [Bool.false_eq_true, if_false, hcp, hmem]
        cases hN : flagNoQueue flags
        · simp only [Bool.false_eq_true, if_false, hme, if_true]
          refine ⟨fun hj => ?_, rfl, (signals_same _).symm, ?_⟩
          · -- the one branch in which the two differ: the code looks at REPLACE_EXISTING again
            cases hr : flagReplace flags
            · rfl
            · exact absurd ⟨p, rest, rfl, hpc, hr, hN, by simpa [hr] using hA⟩ hj
          · show QInv (p :: _)
            cases hr : flagReplace flags
            · exact qinv_cons_enqueue hi hpc hN
            · exact qinv_cons_cons hpc hN hp he
        · simp only [if_true, not_member_filter, Bool.false_eq_true, if_false]
          exact ⟨fun _ => trivial, rfl, (signals_same _).symm, hp⟩
      · refine ⟨fun _ => rfl, by simp [primary, REPLY_PRIMARY], (signals_change hpc).symm, ?_⟩
        cases hn : p.noQueue
        · exact qinv_cons_cons (Ne.symm hpc) hn he hp
        · exact he

theorem qinv_qAcquire (os : List Owner) (c flags : Nat) (hi : QInv os) : QInv (qAcquire os c flags).1 :=
  (qAcquire_spec os c flags hi).2.2.2

theorem qRemove_last : qRemove [p] p.conn = ([], [.lost p.conn, .changed (some p.conn) none]) := by
  simp [qRemove]

theorem qRemove_head {q : Owner} : qRemove (p :: q :: rest) p.conn =
    (q :: rest, [.lost p.conn, .changed (some p.conn) (some q.conn), .acquired q.conn]) := by
  simp [qRemove]

theorem qRemove_ne (hpc : p.conn ≠ c) : qRemove (p :: rest) c = (p :: rest.filter (·.conn != c), []) := by
  simp [qRemove, hpc]

theorem qRemove_eq_spec (os : List Owner) (c : Nat) (hi : QInv os) :
    (qRemove os c).1 = releaseName os c := by
  cases os with
  | nil => rfl
  | cons p rest =>
    by_cases hpc : p.conn = c
    · subst hpc
      rw [releaseName, List.filter_cons_of_neg (by simp), filter_ne_of_not_mem (qinv_cons.mp hi).1]
      cases rest with
      | nil => rw [qRemove_last]
      | cons q r => rw [qRemove_head]
    · rw [qRemove_ne hpc, releaseName, List.filter_cons_of_pos (by simpa using hpc)]

theorem qRemove_signals_eq_spec (os : List Owner) (c : Nat) (hi : QInv os) :
    (qRemove os c).2.map sigSpec = signals (primary os) (primary (qRemove os c).1) := by
  cases os with
  | nil => rfl
  | cons p rest =>
    by_cases hpc : p.conn = c
    · subst hpc
      cases rest with
      | nil => rw [qRemove_last]; rfl
      | cons q r => rw [qRemove_head]; exact (signals_change fun h => (qinv_cons.mp hi).1 (by simp [h])).symm
    · rw [qRemove_ne hpc]
      exact (signals_same _).symm

theorem qinv_qRemove (os : List Owner) (c : Nat) (hi : QInv os) : QInv (qRemove os c).1 :=
  qRemove_eq_spec os c hi ▸ hi.sublist List.filter_sublist

/-- **C04, ReleaseName.** Queue and reply code are the specification's. -/
theorem qRelease_eq_spec (os : List Owner) (c : Nat) (hi : QInv os) :
    (qRelease os c).1 = releaseName os c ∧ (qRelease os c).2.1 = releaseReply os c := by
  cases os with
  | nil => simp [qRelease, releaseName, releaseReply, NON_EXISTENT]
  | cons p rest =>
    have hio : inQueue (p :: rest) c = member (p :: rest) c := rfl
    cases hm : member (p :: rest) c
    · simp only [qRelease, hio, hm, Bool.not_false, if_true, releaseReply, List.isEmpty_cons, Bool.false_eq_true, if_false]
      exact ⟨(filter_ne_of_not_mem (not_mem_of_member_false hm)).symm, rfl⟩
    · simp only [qRelease, hio, hm, Bool.not_true, Bool.false_eq_true, if_false, releaseReply, List.isEmpty_cons, if_true]
      exact ⟨qRemove_eq_spec _ c hi, rfl⟩

theorem qinv_qRelease (os : List Owner) (c : Nat) (hi : QInv os) : QInv (qRelease os c).1 :=
  (qRelease_eq_spec os c hi).1 ▸ hi.sublist List.filter_sublist

/-- the hypotheses of `qAcquire_spec` are met by a non-trivial queue -/
example : QInv [⟨1, true, false⟩, ⟨2, false, false⟩] ∧ ¬ QueueJump [⟨1, true, false⟩, ⟨2, false, false⟩] 3 2 := by
  refine ⟨⟨by decide, by decide⟩, ?_⟩
  rintro ⟨p, rest, h, _, _, _, ha⟩
  simp only [List.cons.injEq] at h
  rw [← h.1] at ha
  cases ha

theorem inQueue_sublist {l os : List Owner} {x : ConnId} (hs : l.Sublist os) (h : inQueue l x = true) : inQueue os x = true :=
  inQueue_iff.mpr ((hs.map _).subset (inQueue_iff.mp h))

theorem inQueue_filter {os : List Owner} {c x : ConnId} (h : inQueue (os.filter (·.conn != c)) x = true) : inQueue os x = true :=
  inQueue_sublist List.filter_sublist h

theorem inQueue_qRemove {os : List Owner} {c x : ConnId} (h : inQueue (qRemove os c).1 x = true) : inQueue os x = true := by
  refine inQueue_sublist ?_ h
  unfold qRemove
  cases os with
  | nil => exact .refl _
  | cons p rest =>
    exact iteInduction (motive := fun r : List Owner × List Sig => r.1.Sublist (p :: rest)) (fun _ => List.sublist_cons_self ..)
      fun _ => List.filter_sublist

theorem inQueue_qRelease {os : List Owner} {c x : ConnId} (h : inQueue (qRelease os c).1 x = true) : inQueue os x = true := by
  unfold qRelease at h
  cases os with
  | nil => exact h
  | cons p rest =>
    revert h
    exact iteInduction (motive := fun r : List Owner × Nat × List Sig => inQueue r.1 x = true → inQueue (p :: rest) x = true)
      (fun _ h => h) fun _ h => inQueue_qRemove h

theorem inQueue_insertSecond {o : Owner} {os : List Owner} {x : ConnId} (h : inQueue (insertSecond o os) x = true) :
    inQueue os x = true ∨ o.conn = x := by
  cases os with
  | nil => exact .inr (by simpa [insertSecond, inQueue] using h)
  | cons p rest =>
    simp only [insertSecond, inQueue, List.any_cons, Bool.or_eq_true, beq_iff_eq] at h ⊢
    exact h.elim (fun h => .inl (.inl h)) fun h => h.elim .inr fun h => .inl (.inr h)

theorem inQueue_qAdd {os : List Owner} {c x : ConnId} {flags : Nat} (h : inQueue (qAdd os c flags).1 x = true) :
    inQueue os x = true ∨ x = c := by
  unfold qAdd at h
  dsimp only at h
  split at h
  · split at h
    · exact (inQueue_insertSecond h).imp inQueue_filter Eq.symm
    · -- refreshed where it stands: the same connections
      rw [inQueue_iff, List.map_map] at h
      obtain ⟨o, ho, rfl⟩ := List.mem_map.mp h
      by_cases hc : o.conn = c
      · exact .inr (by simp [hc])
      · exact .inl (inQueue_iff.mpr (by simpa [hc] using List.mem_map_of_mem ho))
  · split at h
    · rw [inQueue, List.any_append, Bool.or_eq_true] at h
      exact h.imp_right fun h => Eq.symm (by simpa using h)
    · exact (inQueue_insertSecond h).imp_right Eq.symm

theorem inQueue_qSwap {os : List Owner} {c x : ConnId} (h : inQueue (qSwap os c).1 x = true) : inQueue os x = true := by
  unfold qSwap at h
  split at h
  · exact inQueue_iff.mpr (((List.Perm.swap ..).map _).mem_iff.mp (inQueue_iff.mp h))
  · exact h

theorem inQueue_qAcquire {os : List Owner} {c x : ConnId} {flags : Nat} (h : inQueue (qAcquire os c flags).1 x = true) :
    inQueue os x = true ∨ x = c := by
  cases os with
  | nil => rw [qAcquire_nil] at h; exact .inr (Eq.symm (by simpa [inQueue] using h))
  | cons p rest =>
    unfold qAcquire at h
    dsimp only at h
    split at h
    · simp only [inQueue, List.any_cons, Bool.or_eq_true, beq_iff_eq, mkOwner_conn] at h ⊢
      exact h.elim (fun h => .inr h.symm) fun h => .inl (.inr h)
    · split at h
      · exact .inl (inQueue_filter h)
      · split at h
        · exact inQueue_qAdd h
        · split at h
          · exact inQueue_qAdd (inQueue_qRemove h)
          · exact inQueue_qAdd (inQueue_qSwap h)
end Dbus.Proofs.Bus
