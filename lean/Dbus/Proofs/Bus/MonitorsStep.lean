import Dbus.Proofs.Bus.Monitors
/-
  Once the observers are rewritten (`Monitors`) the two runs branch on the same tests, and `Shadow` passes through `if` (`rel_ite`)
  and through folds (Lean's `List.foldl_rel`).  Within a call to the driver the caller `c` is exempt from shading (`Shadow (some c)`):
  BecomeMonitor turns it into a monitor in both runs, and only the re-shading after the step undoes that in the second.
-/
namespace Dbus.Proofs.Bus
open Dbus.Model Dbus.Model.Bus

variable {k : Option ConnId}

theorem shadow_sendOne {t t' : Tx} (h : Shadow k t t') (s a : Option ConnId) (to : ConnId) (m : Msg) :
    Shadow k (sendOne t s a to m) (sendOne t' s a to m) := by
  unfold sendOne
  rw [h.1, checkPolicy_shade, canFdOf_shade]
  obtain ⟨p, _ | e⟩ := checkPolicy t.bus s a (some to) m
  · exact rel_ite ((h.setPending p).captureError _ _ _) ((h.setPending p).emit _)
  · exact (h.setPending p).captureError _ _ _

theorem shadow_sendAddressed {t t' : Tx} (h : Shadow k t t') (s : Option ConnId) (a : ConnId) (m : Msg) :
    ShadowR k (sendAddressed t s a m) (sendAddressed t' s a m) := by
  unfold sendAddressed
  rw [h.1, checkPolicy_shade, canFdOf_shade]
  obtain ⟨p, _ | e⟩ := checkPolicy t.bus s (some a) (some a) m
  · exact rel_ite (.ret (h.setPending p) _) (.ret ((h.setPending p).emit _) _)
  · exact .ret (h.setPending p) _

theorem shadow_sendMatches {t t' : Tx} (h : Shadow k t t') (s a : Option ConnId) (m : Msg) :
    Shadow k (sendMatches t s a m) (sendMatches t' s a m) := by
  unfold sendMatches
  rw [h.1, recipients_shade]
  exact List.foldl_rel h fun r _ _ _ h => shadow_sendOne h s a r m

theorem shadow_dispatchMatches {t t' : Tx} (h : Shadow k t t') (s a : Option ConnId) (m : Msg) :
    Shadow k (dispatchMatches t s a m).1 (dispatchMatches t' s a m).1 ∧ (dispatchMatches t' s a m).2 = (dispatchMatches t s a m).2 := by
  unfold dispatchMatches
  cases a with
  | none => exact ⟨shadow_sendMatches h s none m, rfl⟩
  | some a =>
    obtain ⟨t1, t1', e, hs, e1, e2⟩ := (shadow_sendAddressed h s a m).elim
    simp only [e1, e2]
    cases e with
    | some e => exact ⟨hs, rfl⟩
    | none => exact ⟨shadow_sendMatches hs s (some a) m, rfl⟩

/-- **Routing a message ignores monitors.** -/
theorem shadow_route {t t' : Tx} (h : Shadow k t t') (c : ConnId) (m : Msg) :
    Shadow k (route t c m).1 (route t' c m).1 ∧ (route t' c m).2 = (route t c m).2 := by
  unfold route
  rw [h.1]
  cases m.dest with
  | none => exact shadow_dispatchMatches (Shadow.capture h _ _ _ _ _ _) _ _ _
  | some d =>
    dsimp only
    rw [primary?_shade]
    cases t.bus.primary? d with
    | none => exact ⟨Shadow.capture h _ _ _ _ _ _, rfl⟩
    | some a => exact shadow_dispatchMatches (Shadow.capture h _ _ _ _ _ _) _ _ _

theorem shadow_sendStamped {t t' : Tx} (h : Shadow k t t') (to : ConnId) (m : Msg) :
    Shadow k (sendStamped t to m) (sendStamped t' to m) := by
  unfold sendStamped
  rw [h.1, checkPolicy_shade]
  obtain ⟨p, _ | e⟩ := checkPolicy t.bus none (some to) (some to) m
  · exact (h.setPending p).emit _
  · exact (h.setPending p).captureError _ _ _

/-- **What the bus itself sends (replies, errors, NameAcquired/NameLost) ignores monitors.** -/
theorem shadow_sendFromDriver {t t' : Tx} (h : Shadow k t t') (to : ConnId) (m : Msg) :
    Shadow k (sendFromDriver t to m) (sendFromDriver t' to m) := by
  unfold sendFromDriver
  rw [h.1, stampDriver_shade]
  exact shadow_sendStamped (Shadow.capture h _ _ _ _ _ _) to _

open Dbus.Spec in
theorem shadow_reply {t t' : Tx} (h : Shadow k t t') (c : ConnId) (call : Msg) (tys : List Ty) (body : List Val) :
    Shadow k (reply t c call tys body) (reply t' c call tys body) := shadow_sendFromDriver h c _

theorem shadow_finish {r r' : Tx × Option Err} (h : ShadowR k r r') (c : ConnId) (m : Msg) :
    Shadow k (finish r c m) (finish r' c m) := by
  obtain ⟨t, t', e, hs, rfl, rfl⟩ := h.elim
  cases e with
  | none => exact hs
  | some e => exact shadow_sendFromDriver hs c _

theorem shadow_emitSig {t t' : Tx} (h : Shadow k t t') (n : Bytes) (s : Sig) :
    Shadow k (emitSig n t s) (emitSig n t' s) := by
  cases s with
  | lost c => exact shadow_sendFromDriver h c _
  | acquired c => exact shadow_sendFromDriver h c _
  | changed o w =>
    show Shadow k (sigOwnerChanged t n (connName t.bus o) (connName t.bus w)) (sigOwnerChanged t' n (connName t'.bus o) (connName t'.bus w))
    rw [h.1, connName_shade, connName_shade]
    exact (shadow_dispatchMatches (Shadow.capture h _ _ _ _ _ _) none none _).1

theorem shadow_applyQueue {t t' : Tx} (h : Shadow k t t') (n : Bytes) (os' : List Owner) (sigs : List Sig) :
    Shadow k (applyQueue t n os' sigs) (applyQueue t' n os' sigs) := by
  have hs : Shadow k (sigs.foldl (emitSig n) t) (sigs.foldl (emitSig n) t') := List.foldl_rel h fun s _ _ _ h => shadow_emitSig h n s
  refine ⟨?_, hs.2⟩
  rw [applyQueue_bus, applyQueue_bus, h.1, ownersOf_shade, setOwners_shade, syncOwned_shade]

theorem shadow_acquire {t t' : Tx} (h : Shadow k t t') (c : ConnId) (n : Bytes) (flags : Nat) :
    ShadowR k (acquire t c n flags) (acquire t' c n flags) := by
  unfold acquire
  rw [h.1, connPolicy_shade, nOwned_shade, ownersOf_shade]
  exact rel_ite (.ret h _) (rel_ite (.ret h _) (rel_ite (.ret h _) (rel_ite (.ret h _) (rel_ite (.ret h _)
    (.ret (shadow_applyQueue h n _ _) _)))))

theorem shadow_release {t t' : Tx} (h : Shadow k t t') (c : ConnId) (n : Bytes) :
    ShadowR k (release t c n) (release t' c n) := by
  unfold release
  rw [h.1, ownersOf_shade]
  exact rel_ite (.ret h _) (rel_ite (.ret h _) (rel_ite (.ret h _) (.ret (shadow_applyQueue h n _ _) _)))

theorem shadow_removeOwner {t t' : Tx} (h : Shadow k t t') (n : Bytes) (c : ConnId) :
    Shadow k (removeOwner t n c) (removeOwner t' n c) := by
  unfold removeOwner
  rw [h.1, ownersOf_shade]
  exact shadow_applyQueue h n _ _

theorem shadow_ensureService {t t' : Tx} (h : Shadow k t t') (n : Bytes) (c : ConnId) (flags : Nat) :
    Shadow k (ensureService t n c flags) (ensureService t' n c flags) :=
  shadow_applyQueue h n _ _

theorem senderNameOf_sim {b b' : Bus} (h : shade k b' = shade k b) (c : ConnId) : senderNameOf b' c = senderNameOf b c := by
  rw [← senderNameOf_shade b', ← senderNameOf_shade b, h]

theorem pending_sim {b b' : Bus} (h : shade k b' = shade k b) : b'.pending = b.pending := by
  show (shade k b').pending = (shade k b).pending
  rw [h]

theorem sim_dispatchMatches {t t' : Tx} (h : Sim k t t') (s a : Option ConnId) (m : Msg) :
    Sim k (dispatchMatches t s a m).1 (dispatchMatches t' s a m).1 ∧ (dispatchMatches t' s a m).2 = (dispatchMatches t s a m).2 :=
  sim_of_shadow2 (fun t => dispatchMatches t s a m) (fun _ _ h => shadow_dispatchMatches h s a m) h

theorem sim_finish {t t' : Tx} (h : Sim k t t') (e : Option Err) (c : ConnId) (m : Msg) :
    Sim k (finish (t, e) c m) (finish (t', e) c m) :=
  sim_of_shadow (fun t => finish (t, e) c m) (fun _ _ h => shadow_finish (.ret h e) c m) h

theorem shadow_noReplyTo {t t' : Tx} (h : Shadow k t t') (c : ConnId) (p : Pending) :
    Shadow k (noReplyTo c t p) (noReplyTo c t' p) :=
  rel_ite (shadow_sendFromDriver h _ _) h

theorem shadow_dropPending {t t' : Tx} (h : Shadow k t t') (c : ConnId) : Shadow k (dropPending t c) (dropPending t' c) := by
  unfold dropPending
  rw [h.1, pending_shade]
  exact List.foldl_rel (h.setPending _) fun p _ _ _ h => shadow_noReplyTo h c p

theorem sim_dropPending {t t' : Tx} (h : Sim k t t') (c : ConnId) : Sim k (dropPending t c) (dropPending t' c) :=
  sim_of_shadow (fun t => dropPending t c) (fun _ _ h => shadow_dropPending h c) h

theorem involves_eq_false {d : ConnId} {e : Pending} : involves d e = false ↔ e.caller ≠ d ∧ e.callee ≠ d := by
  unfold involves
  simp only [Bool.or_eq_false_iff, beq_eq_false_iff_ne, ne_eq]

/-- no pending reply involves `d`: then `dropPending · d`, which the sweep runs for every monitor, does nothing -/
def QuietIn (p : List Pending) (d : ConnId) : Prop := ∀ e ∈ p, involves d e = false

theorem dropPending_quiet (t : Tx) (d : ConnId) (h : QuietIn t.bus.pending d) : dropPending t d = t := by
  unfold dropPending
  have h1 : t.bus.pending.filter (involves d) = [] := List.filter_eq_nil_iff.mpr fun e he => by rw [h e he]; exact Bool.false_ne_true
  have h2 : (t.bus.pending.filter fun p => !involves d p) = t.bus.pending :=
    List.filter_eq_self.mpr fun e he => congrArg (!·) (h e he)
  rw [h1, h2]
  rfl

theorem quietIn_dropPending {t : Tx} {c d : ConnId} (h : d ≠ c → QuietIn t.bus.pending d) : QuietIn (dropPending t c).bus.pending d := by
  intro e he
  rw [dropPending_bus] at he
  obtain ⟨he1, he2⟩ := List.mem_filter.mp he
  by_cases hd : d = c
  · rw [hd]; exact Bool.not_eq_eq_eq_not.mp he2
  · exact h hd e he1

/-- the sweep at the end of a dispatch, when every monitor but (possibly) `c` is quiet: at most `c` is swept -/
theorem sweep_fold (c : ConnId) : ∀ (l : List Conn) (t : Tx), (∀ x ∈ l, x.id ≠ c → QuietIn t.bus.pending x.id) →
    l.foldl (fun t x => dropPending t x.id) t = if l.any (·.id == c) then dropPending t c else t
  | [], _, _ => rfl
  | x :: l, t, hq => by
    rw [List.foldl_cons, List.any_cons]
    by_cases hx : x.id = c
    · -- `c` is swept now; after that everybody is quiet, `c` included
      subst hx
      rw [sweep_fold x.id l _ fun y hy hne => quietIn_dropPending fun _ => hq y (List.mem_cons_of_mem _ hy) hne,
        dropPending_quiet _ x.id (quietIn_dropPending fun h => absurd rfl h), ite_self, beq_self_eq_true, Bool.true_or, if_pos rfl]
    · rw [dropPending_quiet t x.id (hq x List.mem_cons_self hx), sweep_fold c l t fun y hy => hq y (List.mem_cons_of_mem _ hy),
        beq_false_of_ne hx, Bool.false_or]

theorem shadow_helloOk {t t' : Tx} (h : Shadow k t t') (c : ConnId) (m : Msg) : Shadow k (helloOk t c m) (helloOk t' c m) := by
  unfold helloOk
  rw [h.1, mint_shade]
  refine shadow_ensureService (shadow_reply ?_ _ _ _ _) _ _ _
  exact ⟨activate_shade _ _ _, h.2⟩

theorem shadow_hello {t t' : Tx} (h : Shadow k t t') (c : ConnId) (m : Msg) :
    ShadowR k (hello t c m) (hello t' c m) := by
  unfold hello
  rw [h.1, isActive_shade, nCompleted_shade, nCompletedFor_shade, uidOf_shade]
  exact rel_ite (.ret h _) (rel_ite (.ret h _) (rel_ite (.ret h _) (.ret (shadow_helloOk h c m) _)))

theorem shadow_releaseAll {t t' : Tx} (h : Shadow k t t') (c : ConnId) (names : List Bytes) :
    Shadow k (releaseAll t c names) (releaseAll t' c names) :=
  List.foldl_rel h fun n _ _ _ h => shadow_removeOwner h n c

theorem shadow_beMonitor {t t' : Tx} (c : ConnId) (h : Shadow (some c) t t') (rules : List MatchRule) :
    Shadow (some c) (beMonitor t c rules) (beMonitor t' c rules) := by
  unfold beMonitor
  rw [h.1, conn?_shade_self]
  cases t.bus.conn? c with
  | none => exact h
  | some x =>
    exact (shadow_releaseAll (h.mapBus _ (installMonitorRules_shade_self c rules _)) c x.owned).mapBus _
      (joinMonitors_shade_self c x rules _)

theorem shadow_runMethod {t t' : Tx} (c : ConnId) (h : Shadow (some c) t t') (m : Msg) (w : Method) :
    ShadowR (some c) (runMethod t c m w) (runMethod t' c m w) := by
  have hr := shadow_reply h c m
  cases w with
  | hello => exact shadow_hello h c m
  | requestName =>
    obtain ⟨t1, t1', r, hs, e, e'⟩ := (shadow_acquire h c (arg0 m) (arg1Nat m)).elim
    simp only [runMethod, e, e']
    cases r with
    | ok code => exact .ret (shadow_reply hs _ _ _ _) _
    | error e => exact .ret hs _
  | releaseName =>
    obtain ⟨t1, t1', r, hs, e, e'⟩ := (shadow_release h c (arg0 m)).elim
    simp only [runMethod, e, e']
    cases r with
    | ok code => exact .ret (shadow_reply hs _ _ _ _) _
    | error e => exact .ret hs _
  | nameHasOwner =>
    simp only [runMethod, h.1, service?_shade]
    exact .ret (hr _ _) _
  | listNames =>
    simp only [runMethod, h.1, services_shade]
    exact .ret (hr _ _) _
  | getNameOwner =>
    simp only [runMethod, h.1, primary?_shade, uniqueOrEmpty_shade]
    cases t.bus.primary? (arg0 m) with
    | some o => exact .ret (hr _ _) _
    | none => exact rel_ite (.ret (hr _ _) _) (.ret h _)
  | listQueuedOwners =>
    simp only [runMethod, h.1, ownersOf_shade, uniqueOrEmpty_shade]
    cases ownersOf t.bus (arg0 m) with
    | nil => exact rel_ite (.ret (hr _ _) _) (.ret h _)
    | cons o os => exact .ret (hr _ _) _
  | getUnixUser =>
    simp only [runMethod, h.1, primary?_shade, uidOf_shade]
    refine rel_ite (.ret (hr _ _) _) ?_
    cases t.bus.primary? (arg0 m) with
    | some o => exact .ret (hr _ _) _
    | none => exact .ret h _
  | ping =>
    simp only [runMethod]
    exact .ret (hr _ _) _
  | addMatch =>
    simp only [runMethod, h.1, nRules_shade_self, isRoot_shade]
    refine rel_ite (.ret h _) ?_
    cases parseRule (arg0 m) with
    | ok r =>
      refine rel_ite (.ret h _) (.ret (shadow_reply ?_ _ _ _ _) _)
      exact ⟨updRules_shade_self t.bus c (· ++ [r]), h.2⟩
    | tooLong => exact .ret h _
    | invalid => exact .ret h _
  | removeMatch =>
    simp only [runMethod, h.1, rulesOfConn_shade_self]
    cases parseRule (arg0 m) with
    | ok r =>
      dsimp only
      cases removeRule (rulesOfConn t.bus c) r with
      | some rs' => exact .ret ((hr [] []).mapBus (·.updRules c fun _ => rs') (updRules_shade_self _ c _)) _
      | none => exact .ret (hr _ _) _
    | tooLong => exact .ret h _
    | invalid => exact .ret h _
  | becomeMonitor =>
    simp only [runMethod]
    refine rel_ite (.ret h _) ?_
    cases parseMonitorRules (monitorTexts m) with
    | error e => exact .ret h _
    | ok rules => exact .ret (shadow_beMonitor c (hr [] []) rules) _
  | opaqueM =>
    -- the copies for monitors differ, the rest is `sendStamped` with another thing queued
    simp only [runMethod]
    generalize captureTargets t'.bus none (some c) (stampDriver t'.bus c (mkReturn m [] [])) = l'
    generalize captureTargets t.bus none (some c) (stampDriver t.bus c (mkReturn m [] [])) = l
    have e1 := opaque_fold_frame l m.serial t
    have e2 := opaque_fold_frame l' m.serial t'
    have hf : Shadow (some c) (l.foldl (fun (t : Tx) r => { t with mon := t.mon ++ [Out.opaque r m.serial] }) t)
        (l'.foldl (fun (t : Tx) r => { t with mon := t.mon ++ [Out.opaque r m.serial] }) t') :=
      ⟨by rw [e1.1, e2.1]; exact h.1, by rw [e1.2, e2.2]; exact h.2⟩
    rw [e1.1, e2.1, h.1, stampDriver_shade, checkPolicy_shade]
    obtain ⟨p, _ | e⟩ := checkPolicy t.bus none (some c) (some c) (stampDriver t.bus c (mkReturn m [] []))
    · exact .ret ((hf.setPending p).emit _) _
    · exact .ret ((hf.setPending p).captureError _ _ _) _

theorem shadow_driverHandle (tbl : List IfaceRow) {t t' : Tx} (c : ConnId) (h : Shadow (some c) t t') (m : Msg) :
    ShadowR (some c) (driverHandle tbl t c m) (driverHandle tbl t' c m) := by
  unfold driverHandle
  rw [h.1, isRoot_shade]
  refine rel_ite (.ret h _) ?_
  dsimp only
  cases findHandler tbl (m.path == some DBUS_PATH) m.iface (m.member.getD []) with
  | noInterface => exact .ret h _
  | noMethod => exact .ret h _
  | handler i row => exact rel_ite (.ret h _) (rel_ite (.ret h _) (rel_ite (.ret h _) (shadow_runMethod c h m _)))

theorem shadow_toDriverCore (tbl : List IfaceRow) {t t' : Tx} (c : ConnId) (h : Shadow (some c) t t') (m : Msg) :
    ShadowR (some c) (toDriverCore tbl t c m) (toDriverCore tbl t' c m) := by
  unfold toDriverCore
  rw [h.1, checkPolicy_shade]
  obtain ⟨p, _ | e⟩ := checkPolicy t.bus (some c) none none m
  · obtain ⟨t1, t1', e1, hs, q, q'⟩ := (shadow_driverHandle tbl c (h.setPending p) m).elim
    simp only [q, q']
    cases e1 with
    | some e => exact .ret hs _
    | none =>
      dsimp only
      rw [hs.1, senderNameOf_shade]
      exact shadow_dispatchMatches hs _ _ _
  · exact .ret (h.setPending p) _

theorem shadow_toDriver (tbl : List IfaceRow) {t t' : Tx} (c : ConnId) (h : Shadow (some c) t t') (m : Msg) :
    ShadowR (some c) (toDriver tbl t c m) (toDriver tbl t' c m) := by
  exact shadow_toDriverCore tbl c (t := { t with mon := [] }) (t' := { t' with mon := [] }) h m

/-- quiet except for `c`: every monitor but `c` is.  The sweep then comes down to the caller `c`, whom alone the driver call
    can have made a monitor (`sweep_eq`) -/
def QuietX (c : ConnId) (b : Bus) : Prop := ∀ x ∈ b.conns, x.monitor = true → x.id ≠ c → QuietIn b.pending x.id

theorem sweep_eq {c : ConnId} {T : Tx} (hq : QuietX c T.bus) :
    sweepMonitors T = if (T.bus.conns.filter (·.monitor)).any (·.id == c) then dropPending T c else T :=
  sweep_fold c _ T fun x hx hne => hq x (List.mem_filter.mp hx).1 (List.mem_filter.mp hx).2 hne

theorem shadow_sweep {T T' : Tx} (c : ConnId) (h : Shadow (some c) T T') (hq : QuietX c T.bus) :
    Shadow (some c) (sweepMonitors T) (sweepMonitors T') := by
  have hq' : QuietX c T'.bus := by
    rw [h.1]
    intro x hx hm hne
    obtain ⟨y, _, rfl⟩ := List.mem_map.mp hx
    exact absurd ((monitor_shade_self c y).2 hm) hne
  have hany : (T'.bus.conns.filter (·.monitor)).any (·.id == c) = (T.bus.conns.filter (·.monitor)).any (·.id == c) := by
    rw [h.1]
    show ((T.bus.conns.map (neutral (some c))).filter (·.monitor)).any (·.id == c) = _
    simp only [List.any_filter, List.any_map, Function.comp_def, (monitor_shade_self c _).1]
  rw [sweep_eq hq, sweep_eq hq', hany]
  exact rel_ite (shadow_dropPending h c) h

theorem shadow_disconnectTx (b : Bus) (c : ConnId) (x : Conn) (hx : x.monitor = true → x.rules = []) :
    Shadow k (disconnectTx b c x) (disconnectTx (shade k b) c (neutral k x)) := by
  unfold disconnectTx
  rw [neutral_owned, gcRules_neutral _ hx, gcRules_shade, clearRules_shade]
  refine shadow_dropPending (Shadow.mapBus (shadow_releaseAll ?_ c x.owned.reverse) _ (removeConn_shade c _)) c
  exact ⟨rfl, rfl⟩

theorem shadow_disconnect (b : Bus) (c : ConnId) (hc : ∀ x, b.conn? c = some x → x.monitor = true → x.rules = []) :
    Shadow k (disconnect b c) (disconnect (shade k b) c) := by
  unfold disconnect
  rw [conn?_shade]
  cases h : b.conn? c with
  | none => exact ⟨rfl, rfl⟩
  | some x =>
    have := shadow_disconnectTx (k := k) b c x (hc x h)
    dsimp only [Option.map_some]
    exact ⟨this.1, congrArg (List.filter (notTo c)) this.2⟩

theorem shadow_dropConn (b : Bus) (c : ConnId) (hc : ∀ x, b.conn? c = some x → x.monitor = true → x.rules = []) :
    Shadow k (dropConn b c) (dropConn (shade k b) c) :=
  (shadow_disconnect b c hc).emit (.close c)

/-- `hdrv`: for a call to the driver the exempt connection must be the caller (who may become a monitor), and the sweep
    must find the older monitors quiet -/
theorem shadow_dispatch (tbl : List IfaceRow) (b : Bus) (c : ConnId) (x : Conn) (m0 : Msg)
    (hx : b.conn? c = some x) (hmon : x.monitor = false)
    (hdrv : (stamped b c m0).dest = some BUS_NAME → k = some c ∧
      QuietX c (finish (toDriver tbl { bus := b } c (stamped b c m0)) c (stamped b c m0)).bus) :
    Shadow k (dispatch tbl b c m0) (dispatch tbl (shade k b) c m0) := by
  have hx' : (shade k b).conn? c = some x := by rw [conn?_shade, hx]; exact congrArg some (neutral_of_not_monitor hmon)
  unfold dispatch
  rw [hx, hx']
  simp only [hmon, Bool.false_eq_true, if_false, senderNameOf_shade]
  refine rel_ite ⟨rfl, rfl⟩ (rel_ite ⟨rfl, rfl⟩ (rel_ite' (fun hd => ?_) fun _ => rel_ite ?_ ?_))
  · obtain ⟨rfl, hq⟩ := hdrv (beq_iff_eq.mp hd)
    exact shadow_sweep c (shadow_finish (shadow_toDriver tbl c (t := { bus := b }) (t' := { bus := shade (some c) b }) ⟨rfl, rfl⟩ _) c _) hq
  · exact shadow_dropConn (k := k) b c fun y hy hm => by rw [Option.some.inj (hx.symm.trans hy), hm] at hmon; cases hmon
  · exact shadow_finish (shadow_route (t := { bus := b }) (t' := { bus := shade k b }) ⟨rfl, rfl⟩ c _) c _

/-- the event as it reads on the bus without monitors: a monitor that speaks is a connection that sent something
    unacceptable and is dropped (messages its built-in peer filter answers excepted: they never reach the bus proper) -/
def shadowEv (b : Bus) : Ev → Ev
  | .msg c m =>
    match b.conn? c with
    | some x =>
      if x.monitor && !((strip m).dest.isNone && (strip m).iface == some PEER_IFACE) then .invalid c else .msg c m
    | none => .msg c m
  | e => e

theorem shadow_expired (ps : List Pending) {t t' : Tx} (h : Shadow k t t') :
    Shadow k (ps.foldl (fun t p => sendError t p.caller (fakeCall p.serial) .noReply) t)
      (ps.foldl (fun t p => sendError t p.caller (fakeCall p.serial) .noReply) t') :=
  List.foldl_rel h fun _ _ _ _ h => shadow_sendFromDriver h _ _

theorem shadow_expireWhere (b : Bus) (due : Pending → Bool) : Shadow k (expireWhere b due) (expireWhere (shade k b) due) :=
  shadow_expired (b.pending.filter due) (t := { bus := { b with pending := b.pending.filter fun p => !due p } }) ⟨rfl, rfl⟩

theorem shadow_expireAll (b : Bus) : Shadow k (expireAll b) (expireAll (shade k b)) :=
  shadow_expired b.pending (t := { bus := { b with pending := [] } }) ⟨rfl, rfl⟩

/-- the hypotheses hold in every reachable state (`MonInv.lean`) -/
theorem step_sim (tbl : List IfaceRow) (b : Bus) (hids : (b.conns.map (·.id)).Nodup) (hcl : MonClean b)
    (hsw : ∀ c m x, b.conn? c = some x → x.monitor = false → QuietX c (finish (toDriver tbl { bus := b } c m) c m).bus) (ev : Ev) :
    Sim none (step tbl b ev) (step tbl (shade none b) (shadowEv b ev)) := by
  have same : ∀ t : Tx, Sim none t { bus := shade none t.bus, out := t.out } := fun t => Shadow.sim ⟨rfl, rfl⟩
  have clean : ∀ {c : ConnId} (x : Conn), b.conn? c = some x → x.monitor = true → x.rules = [] := fun x hx => hcl x (conn?_mem hx)
  cases ev with
  | connect c uid gids canFd =>
    simp only [shadowEv, step]
    rw [conn?_shade, Option.isSome_map]
    refine rel_ite (same _) (Shadow.sim ⟨?_, rfl⟩)
    show ({ shade none b with conns := (shade none b).conns ++ [_] } : Bus) = shade none { b with conns := b.conns ++ [_] }
    unfold shade
    rw [List.map_append]
    rfl
  | msg c m0 =>
    cases hx : b.conn? c with
    | none =>
      simp only [shadowEv, hx, step]
      rw [dispatch_none tbl m0 hx, dispatch_none tbl m0 (by rw [conn?_shade, hx]; rfl)]
      exact same _
    | some x =>
      have hx' : (shade none b).conn? c = some (neutral none x) := by rw [conn?_shade, hx]; rfl
      cases hp : ((strip m0).dest.isNone && (strip m0).iface == some PEER_IFACE) with
      | true =>
        simp only [shadowEv, hx, hp, Bool.not_true, Bool.and_false, Bool.false_eq_true, if_false, step]
        rw [dispatch_peer tbl hx hp, dispatch_peer tbl hx' hp]
        exact same _
      | false =>
        cases hm : x.monitor with
        | true =>
          simp only [shadowEv, hx, hm, hp, Bool.not_false, Bool.and_true, if_true, step, hx', Option.isNone_some, Bool.false_eq_true, if_false]
          rw [dispatch_monitor tbl hx hm hp]
          exact (shadow_dropConn b c clean).sim
        | false =>
          simp only [shadowEv, hx, hm, Bool.false_and, Bool.false_eq_true, if_false, step]
          rw [← shade_some_of_actor (actor_of_conn hids hx hm)]
          exact sim_of_shadow_some (shadow_dispatch tbl b c x m0 hx hm fun _ => ⟨rfl, hsw c _ x hx hm⟩)
  | invalid c =>
    simp only [shadowEv, step]
    rw [conn?_shade, Option.isNone_map]
    exact rel_ite (same _) (shadow_dropConn b c clean).sim
  | close c => exact (shadow_disconnect b c clean).sim
  | timeout => exact (shadow_expireAll b).sim
  | expire due => exact (shadow_expireWhere b _).sim
  | stall c on => exact same _
  | reload p => exact Shadow.sim ⟨reloadPolicy_shade b p, rfl⟩

end Dbus.Proofs.Bus
