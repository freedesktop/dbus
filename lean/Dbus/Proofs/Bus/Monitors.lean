import Dbus.Proofs.Bus.Frame
/-
  `shade k b` is `b` with every monitor an ordinary idle connection again: in its place among the connections (so that every count the
  limits look at is the same) and, its names and match rules dropped when it became a monitor (`beMonitor`), owning nothing, listening
  to nothing, not to be addressed.  `Shadow` leaves out `Tx.mon`, the copies for monitors: no function of a dispatch reads it.
-/
namespace Dbus.Proofs.Bus
open Dbus.Spec Dbus.Model Dbus.Model.Bus

variable {k : Option ConnId}

/-- `k`: a connection exempt from shading (the actor of the dispatch under study, who may turn into a monitor in its course) -/
def neutral (k : Option ConnId) (x : Conn) : Conn :=
  if x.monitor && some x.id != k then { x with monitor := false, rules := [] } else x

def shade (k : Option ConnId) (b : Bus) : Bus := { b with conns := b.conns.map (neutral k) }

/-- a monitor has no match rules (`joinMonitors` drops them) -/
def MonClean (b : Bus) : Prop := ∀ x ∈ b.conns, x.monitor = true → x.rules = []

theorem neutral_id (x : Conn) : (neutral k x).id = x.id := by unfold neutral; split <;> rfl
theorem neutral_name (x : Conn) : (neutral k x).name = x.name := by unfold neutral; split <;> rfl
theorem neutral_policy (x : Conn) : (neutral k x).policy = x.policy := by unfold neutral; split <;> rfl
theorem neutral_canFd (x : Conn) : (neutral k x).canFd = x.canFd := by unfold neutral; split <;> rfl
theorem neutral_monitorRules (x : Conn) : (neutral k x).monitorRules = x.monitorRules := by unfold neutral; split <;> rfl
theorem neutral_owned (x : Conn) : (neutral k x).owned = x.owned := by unfold neutral; split <;> rfl
theorem neutral_uid (x : Conn) : (neutral k x).uid = x.uid := by unfold neutral; split <;> rfl

def shaded (k : Option ConnId) (x : Conn) : Bool := x.monitor && some x.id != k
theorem neutral_of_shaded {x : Conn} (h : shaded k x = true) : neutral k x = { x with monitor := false, rules := [] } := by
  unfold shaded at h; unfold neutral; simp only [h, if_true]
theorem neutral_of_not_shaded {x : Conn} (h : shaded k x = false) : neutral k x = x := by
  unfold shaded at h; unfold neutral; simp only [h, Bool.false_eq_true, if_false]
theorem shaded_monitor {x : Conn} (h : shaded k x = true) : x.monitor = true := (Bool.and_eq_true_iff.mp h).1
theorem neutral_of_not_monitor {x : Conn} (h : x.monitor = false) : neutral k x = x :=
  neutral_of_not_shaded (by unfold shaded; rw [h]; rfl)
theorem neutral_self {x : Conn} {c : ConnId} (h : x.id = c) : neutral (some c) x = x :=
  neutral_of_not_shaded (by unfold shaded; rw [h, bne_self_eq_false, Bool.and_false])
theorem neutral_monitor_none (x : Conn) : (neutral none x).monitor = false := by
  unfold neutral
  split
  · rfl
  · rename_i h
    simpa using h

theorem neutral_idem (x : Conn) : neutral k (neutral k x) = neutral k x := by
  cases h : shaded k x with
  | true => rw [neutral_of_shaded h]; exact neutral_of_not_shaded rfl
  | false => rw [neutral_of_not_shaded h, neutral_of_not_shaded h]

theorem monitor_shade_self (c : ConnId) (x : Conn) :
    ((neutral (some c) x).monitor && (neutral (some c) x).id == c) = (x.monitor && x.id == c) ∧
    ((neutral (some c) x).monitor = true → (neutral (some c) x).id = c) := by
  cases hs : shaded (some c) x with
  | true =>
    rw [neutral_of_shaded hs]
    unfold shaded at hs
    simp only [Bool.and_eq_true, bne_iff_ne, ne_eq, Option.some.injEq] at hs
    simp [hs.1, hs.2]
  | false =>
    rw [neutral_of_not_shaded hs]
    refine ⟨rfl, fun hm => ?_⟩
    unfold shaded at hs
    simpa [hm] using hs

theorem conn?_shade (b : Bus) (c : ConnId) : (shade k b).conn? c = (b.conn? c).map (neutral k) :=
  find?_map_id b.conns (neutral k) neutral_id c

theorem nameOf_shade (b : Bus) (c : ConnId) : (shade k b).nameOf c = b.nameOf c := by
  unfold Bus.nameOf
  rw [conn?_shade]
  cases b.conn? c with
  | none => rfl
  | some x => exact neutral_name x

theorem isActive_shade (b : Bus) (c : ConnId) : (shade k b).isActive c = b.isActive c := by
  unfold Bus.isActive; rw [nameOf_shade]

theorem uniqueOrEmpty_shade (b : Bus) (c : ConnId) : (shade k b).uniqueOrEmpty c = b.uniqueOrEmpty c := by
  unfold Bus.uniqueOrEmpty; rw [nameOf_shade]

theorem senderNameOf_shade (b : Bus) (c : ConnId) : senderNameOf (shade k b) c = senderNameOf b c := by
  unfold senderNameOf; rw [nameOf_shade]

theorem stampDriver_shade (b : Bus) (to : ConnId) (m : Msg) : stampDriver (shade k b) to m = stampDriver b to m := by
  unfold stampDriver; rw [nameOf_shade]

theorem connName_shade (b : Bus) (c : Option ConnId) : connName (shade k b) c = connName b c := by
  cases c with
  | none => rfl
  | some c => exact uniqueOrEmpty_shade b c

theorem conn?_shade_read {α : Type} (f : Conn → α) (d : α) (hf : ∀ x, f (neutral k x) = f x) (b : Bus) (c : ConnId) :
    (match (shade k b).conn? c with | some x => f x | none => d) = match b.conn? c with | some x => f x | none => d := by
  rw [conn?_shade]
  cases b.conn? c with
  | none => rfl
  | some x => exact hf x

theorem canFdOf_shade (b : Bus) (c : ConnId) : canFdOf (shade k b) c = canFdOf b c :=
  conn?_shade_read (·.canFd) false neutral_canFd b c

theorem connPolicy_shade (b : Bus) (c : ConnId) : connPolicy (shade k b) c = connPolicy b c :=
  conn?_shade_read (·.policy) [] neutral_policy b c

theorem nOwned_shade (b : Bus) (c : ConnId) : nOwned (shade k b) c = nOwned b c :=
  conn?_shade_read (·.owned.length) 0 (fun x => congrArg List.length (neutral_owned x)) b c

theorem rulesOf_shade (b : Bus) (p : Option ConnId) : rulesOf (shade k b) p = rulesOf b p := by
  cases p with
  | none => rfl
  | some p =>
    show (if (shade k b).isActive p then ((shade k b).conn? p).map (·.policy) else none) = _
    rw [isActive_shade, conn?_shade, Option.map_map, show ((·.policy) ∘ neutral k) = (·.policy) from funext neutral_policy]
    rfl

theorem policyVerdict_shade (b : Bus) (s a p : Option ConnId) (m : Msg) (r : Bool) :
    policyVerdict (shade k b) s a p m r = policyVerdict b s a p m r := by
  unfold policyVerdict senderInactive sendAllowed recvAllowed
  simp only [isActive_shade, rulesOf_shade]
  rfl

theorem requestedReply_shade (b : Bus) (s a p : Option ConnId) (m : Msg) :
    requestedReply (shade k b) s a p m = requestedReply b s a p m := by
  unfold requestedReply
  cases s with
  | none => rfl
  | some s => simp only [isActive_shade]; rfl

/-- **the gate does not see monitors** -/
theorem checkPolicy_shade (b : Bus) (s a p : Option ConnId) (m : Msg) :
    checkPolicy (shade k b) s a p m = checkPolicy b s a p m := by
  unfold checkPolicy
  simp only [requestedReply_shade, policyVerdict_shade]
  rfl

theorem filter_neutral_ids {p : Conn → Bool} (hp : ∀ x, p (neutral k x) = p x) (l : List Conn) :
    ((l.map (neutral k)).filter p).map (·.id) = (l.filter p).map (·.id) := by
  rw [List.filter_map, List.map_map, List.filter_congr (p := p ∘ neutral k) (q := p) fun x _ => hp x]
  exact List.map_congr_left fun x _ => neutral_id x

/-- a monitor is excluded, and so is the rule-less connection it is shaded into -/
theorem recipients_shade (b : Bus) (s a : Option ConnId) (m : Msg) :
    recipients (shade k b) s a m = recipients b s a m := by
  refine filter_neutral_ids (fun x => ?_) b.conns
  cases hs : shaded k x with
  | true =>
    rw [neutral_of_shaded hs, shaded_monitor hs]
    exact Bool.and_false _
  | false => rw [neutral_of_not_shaded hs]

theorem recipients_pending (b : Bus) (p : List Pending) (s a : Option ConnId) (m : Msg) :
    recipients { b with pending := p } s a m = recipients b s a m := rfl

theorem primary?_shade (b : Bus) (n : Bytes) : (shade k b).primary? n = b.primary? n := rfl

theorem ownersOf_shade (b : Bus) (n : Bytes) : ownersOf (shade k b) n = ownersOf b n := rfl

theorem pending_shade (b : Bus) : (shade k b).pending = b.pending := rfl

theorem service?_shade (b : Bus) (n : Bytes) : (shade k b).service? n = b.service? n := rfl
theorem services_shade (b : Bus) : (shade k b).services = b.services := rfl

theorem nCompleted_shade (b : Bus) : nCompleted (shade k b) = nCompleted b :=
  filter_map_length (fun x => by rw [neutral_name])

theorem nCompletedFor_shade (b : Bus) (uid : Nat) : nCompletedFor (shade k b) uid = nCompletedFor b uid :=
  filter_map_length (fun x => by rw [neutral_name, neutral_uid])

theorem uidOf_shade (b : Bus) (c : ConnId) : uidOf (shade k b) c = uidOf b c :=
  conn?_shade_read (·.uid) 0 neutral_uid b c

theorem isRoot_shade (b : Bus) (c : ConnId) : isRoot (shade k b) c = isRoot b c :=
  conn?_shade_read (·.uid == 0) false (fun x => congrArg (· == 0) (neutral_uid x)) b c

theorem conn?_shade_self (b : Bus) (c : ConnId) : (shade (some c) b).conn? c = b.conn? c := by
  rw [conn?_shade]
  cases h : b.conn? c with
  | none => rfl
  | some x => exact congrArg some (neutral_self (conn?_id h))

theorem nRules_shade_self (b : Bus) (c : ConnId) : nRules (shade (some c) b) c = nRules b c := by
  unfold nRules; rw [conn?_shade_self]

theorem rulesOfConn_shade_self (b : Bus) (c : ConnId) : rulesOfConn (shade (some c) b) c = rulesOfConn b c := by
  unfold rulesOfConn; rw [conn?_shade_self]

theorem rel_ite' {α β : Sort _} {R : α → β → Prop} {c : Prop} [Decidable c] {x y : α} {x' y' : β} (hx : c → R x x') (hy : ¬c → R y y') :
    R (if c then x else y) (if c then x' else y') := by
  split
  · exact hx ‹_›
  · exact hy ‹_›

theorem rel_ite {α β : Sort _} {R : α → β → Prop} {c : Prop} [Decidable c] {x y : α} {x' y' : β} (hx : R x x') (hy : R y y') :
    R (if c then x else y) (if c then x' else y') :=
  rel_ite' (fun _ => hx) (fun _ => hy)

/-- a per-connection update that does not look at, or touch, the monitor fields -/
def Blind (k : Option ConnId) (g : Conn → Conn) : Prop := ∀ x, neutral k (g x) = g (neutral k x)

theorem blind_of_fields (g : Conn → Conn) (h1 : ∀ x, (g x).monitor = x.monitor) (h2 : ∀ x, (g x).id = x.id)
    (h3 : ∀ x, g { x with monitor := false, rules := [] } = { g x with monitor := false, rules := [] }) : Blind k g := by
  intro x
  have hs : shaded k (g x) = shaded k x := by unfold shaded; rw [h1, h2]
  cases h : shaded k x with
  | true => rw [neutral_of_shaded h, neutral_of_shaded (hs.trans h), h3]
  | false => rw [neutral_of_not_shaded h, neutral_of_not_shaded (hs.trans h)]

theorem Blind.id : Blind k fun x => x := fun _ => rfl

theorem Blind.ite {p : Conn → Bool} {g g' : Conn → Conn} (hp : ∀ x, p (neutral k x) = p x) (hg : Blind k g) (hg' : Blind k g') :
    Blind k fun x => if p x then g x else g' x := by
  intro x
  show neutral k (if p x then g x else g' x) = if p (neutral k x) then g (neutral k x) else g' (neutral k x)
  rw [hp, ← hg, ← hg', apply_ite (neutral k)]

theorem Blind.at_self {c : ConnId} {g : Conn → Conn} (hid : ∀ x, (g x).id = x.id) :
    Blind (some c) fun x => if x.id == c then g x else x := by
  intro x
  show neutral (some c) (if x.id == c then g x else x) = if (neutral (some c) x).id == c then g (neutral (some c) x) else neutral (some c) x
  rw [neutral_id]
  cases h : x.id == c with
  | true =>
    have hx : x.id = c := beq_iff_eq.mp h
    simp only [if_true]
    rw [neutral_self hx, neutral_self ((hid x).trans hx)]
  | false => rfl

theorem map_shade_of (b : Bus) {g : Conn → Conn} (hg : ∀ x ∈ b.conns, neutral k (g x) = g (neutral k x)) :
    ({ shade k b with conns := (shade k b).conns.map g } : Bus) = shade k { b with conns := b.conns.map g } := by
  unfold shade
  simp only [List.map_map]
  congr 1
  exact List.map_congr_left fun x hx => (hg x hx).symm

theorem map_shade (b : Bus) {g : Conn → Conn} (hg : Blind k g) :
    ({ shade k b with conns := (shade k b).conns.map g } : Bus) = shade k { b with conns := b.conns.map g } :=
  map_shade_of b fun x _ => hg x

theorem updConn_shade (b : Bus) (c : ConnId) (g : Conn → Conn) (hg : Blind k g) :
    (shade k b).updConn c g = shade k (b.updConn c g) :=
  map_shade b (.ite (fun x => by rw [neutral_id]) hg .id)

theorem updConn_shade_self (b : Bus) (c : ConnId) (g : Conn → Conn) (hid : ∀ x, (g x).id = x.id) :
    (shade (some c) b).updConn c g = shade (some c) (b.updConn c g) :=
  map_shade b (.at_self hid)

theorem updRules_shade_self (b : Bus) (c : ConnId) (g : List MatchRule → List MatchRule) :
    (shade (some c) b).updRules c g = shade (some c) (b.updRules c g) :=
  updConn_shade_self b c _ (fun _ => rfl)

/-- the actor of a dispatch: no monitor (a monitor that sends is dropped before anything else happens) -/
def Actor (b : Bus) (c : ConnId) : Prop := ∀ x ∈ b.conns, x.id = c → x.monitor = false

theorem actor_of_conn {b : Bus} {c : ConnId} {x : Conn} (hids : (b.conns.map (·.id)).Nodup) (hx : b.conn? c = some x)
    (hm : x.monitor = false) : Actor b c := by
  intro y hy hid
  rw [inj_of_nodup_map _ hids hy (conn?_mem hx) (hid.trans (conn?_id hx).symm)]
  exact hm

theorem updRules_shade (b : Bus) (c : ConnId) (g : List MatchRule → List MatchRule) (ha : Actor b c) :
    (shade k b).updRules c g = shade k (b.updRules c g) := by
  refine map_shade_of b fun x hx => ?_
  rw [neutral_id]
  cases h : x.id == c with
  | false => rfl
  | true =>
    have hm := ha x hx (beq_iff_eq.mp h)
    simp only [if_true]
    rw [neutral_of_not_monitor hm]
    exact neutral_of_not_monitor hm

theorem setOwners_shade (b : Bus) (n : Bytes) (os : List Owner) : (shade k b).setOwners n os = shade k (b.setOwners n os) := by
  unfold Bus.setOwners
  rw [apply_ite (shade k), apply_ite (shade k)]
  rfl

theorem syncOwned_shade (b : Bus) (n : Bytes) (os os' : List Owner) : syncOwned (shade k b) n os os' = shade k (syncOwned b n os os') :=
  map_shade b (.ite (fun x => by rw [neutral_id]) (blind_of_fields _ (fun _ => rfl) (fun _ => rfl) (fun _ => rfl))
    (.ite (fun x => by rw [neutral_id]) (blind_of_fields _ (fun _ => rfl) (fun _ => rfl) (fun _ => rfl)) .id))

theorem removeConn_shade (c : ConnId) (b : Bus) : removeConn c (shade k b) = shade k (removeConn c b) := by
  unfold removeConn shade
  simp only [List.filter_map, Function.comp_def, neutral_id]

theorem shade_shade (k' : Option ConnId) (b : Bus) :
    shade k' (shade k b) = { b with conns := b.conns.map fun x => neutral k' (neutral k x) } := by
  unfold shade
  simp only [List.map_map]
  rfl

theorem shade_idem (b : Bus) : shade k (shade k b) = shade k b := by
  rw [shade_shade]
  unfold shade
  rw [List.map_congr_left fun x _ => neutral_idem x]

theorem bump_shade (b : Bus) : bump (shade k b) = (shade k (bump b).1, (bump b).2) := rfl

theorem mintAux_shade : ∀ (f : Nat) (b : Bus), mintAux f (shade k b) = (shade k (mintAux f b).1, (mintAux f b).2)
  | 0, b => rfl
  | f + 1, b => by
    -- `mintAux (f + 1)` is an `if` between `bump b` and the recursive call, on a test that shading does not change
    have := apply_ite (fun r : Bus × Bytes => (shade k r.1, r.2)) ((bump b).1.service? (bump b).2).isNone (bump b) (mintAux f (bump b).1)
    rw [← mintAux_shade f] at this
    exact this.symm

theorem mint_shade (b : Bus) : mint (shade k b) = (shade k (mint b).1, (mint b).2) := mintAux_shade _ b

theorem activate_shade (b : Bus) (c : ConnId) (nm : Bytes) : activate (shade k b) c nm = shade k (activate b c nm) := by
  unfold activate
  rw [updConn_shade b c]
  · rfl
  · exact blind_of_fields _ (fun _ => rfl) (fun _ => rfl) (fun _ => rfl)

theorem gcRules_shade (b : Bus) (x : Conn) : gcRules (shade k b) x = shade k (gcRules b x) := by
  unfold gcRules
  rw [apply_ite (shade k)]
  refine rel_ite rfl ?_
  cases x.name with
  | none => rfl
  | some nm =>
    exact map_shade b (.ite (fun y => by rw [neutral_id]) .id (blind_of_fields _ (fun _ => rfl) (fun _ => rfl) (fun _ => rfl)))

theorem installMonitorRules_shade_self (c : ConnId) (rules : List MatchRule) (b : Bus) :
    installMonitorRules c rules (shade (some c) b) = shade (some c) (installMonitorRules c rules b) :=
  updConn_shade_self b c _ (fun _ => rfl)

theorem joinMonitors_shade_self (c : ConnId) (x : Conn) (rules : List MatchRule) (b : Bus) :
    joinMonitors c x rules (shade (some c) b) = shade (some c) (joinMonitors c x rules b) := by
  rw [joinMonitors_eq, joinMonitors_eq, gcRules_shade]
  exact updConn_shade_self _ c _ (fun _ => rfl)

theorem clearRules_shade (b : Bus) (c : ConnId) : clearRules (shade k b) c = shade k (clearRules b c) :=
  updConn_shade b c _ (blind_of_fields _ (fun _ => rfl) (fun _ => rfl) (fun _ => rfl))

theorem neutral_rules_isEmpty {x : Conn} (h : x.monitor = true → x.rules = []) : (neutral k x).rules.isEmpty = x.rules.isEmpty := by
  cases hs : shaded k x with
  | true => rw [neutral_of_shaded hs, h (shaded_monitor hs)]
  | false => rw [neutral_of_not_shaded hs]

/-- `gcRules` looks at the vanishing connection's id, name, filter, and at whether it has rules: a clean monitor and its shade look alike -/
theorem gcRules_neutral (b : Bus) {x : Conn} (hx : x.monitor = true → x.rules = []) : gcRules b (neutral k x) = gcRules b x := by
  unfold gcRules
  rw [neutral_rules_isEmpty hx, neutral_monitorRules, neutral_name, neutral_id]

theorem reloadPolicy_shade (b : Bus) (p : Policy) : reloadPolicy (shade k b) p = shade k (reloadPolicy b p) :=
  map_shade (b := { b with policy := p })
    (.ite (fun x => by rw [neutral_name]) (blind_of_fields _ (fun _ => rfl) (fun _ => rfl) (fun _ => rfl)) .id)

theorem shade_some_of_actor {b : Bus} {c : ConnId} (ha : Actor b c) : shade (some c) b = shade none b := by
  unfold shade
  rw [List.map_congr_left fun x hx => ?_]
  by_cases hid : x.id = c
  · rw [neutral_self hid, neutral_of_not_monitor (ha x hx hid)]
  · unfold neutral
    simp [hid]

theorem shade_none_shade (b : Bus) : shade none (shade k b) = shade none b := by
  rw [shade_shade]
  unfold shade
  rw [List.map_congr_left fun x _ => ?_]
  cases hs : shaded k x with
  | false => rw [neutral_of_not_shaded hs]
  | true =>
    rw [neutral_of_shaded hs, neutral_of_not_monitor rfl, neutral_of_shaded]
    unfold shaded
    rw [shaded_monitor hs]
    rfl

def Shadow (k : Option ConnId) (t t' : Tx) : Prop := t'.bus = shade k t.bus ∧ t'.out = t.out

theorem shade_setPending (b : Bus) (p : List Pending) : shade k { b with pending := p } = { shade k b with pending := p } := rfl

theorem Shadow.emit {t t' : Tx} (h : Shadow k t t') (o : Out) : Shadow k (t.emit o) (t'.emit o) :=
  ⟨h.1, by show t'.out ++ [o] = t.out ++ [o]; rw [h.2]⟩

theorem Shadow.mapBus {t t' : Tx} (h : Shadow k t t') (f : Bus → Bus) (hf : f (shade k t.bus) = shade k (f t.bus)) :
    Shadow k (t.mapBus f) (t'.mapBus f) :=
  ⟨by show f t'.bus = shade k (f t.bus); rw [h.1, hf], h.2⟩

theorem Shadow.setPending {t t' : Tx} (h : Shadow k t t') (p : List Pending) : Shadow k (t.setPending p) (t'.setPending p) :=
  h.mapBus (fun b => { b with pending := p }) (shade_setPending t.bus p).symm

theorem Shadow.capture {t t' : Tx} (h : Shadow k t t') (s a s' a' : Option ConnId) (m m' : Msg) :
    Shadow k (capture t s a m) (capture t' s' a' m') :=
  ⟨by rw [capture_bus, capture_bus]; exact h.1, by rw [capture_out, capture_out]; exact h.2⟩

theorem Shadow.captureError {t t' : Tx} (h : Shadow k t t') (a : Option ConnId) (m : Msg) (e : Err) :
    Shadow k (captureError t a m e) (captureError t' a m e) :=
  Shadow.capture h _ _ _ _ _ _

@[reducible] def ShadowR {α : Type} (k : Option ConnId) (r r' : Tx × α) : Prop := Shadow k r.1 r'.1 ∧ r'.2 = r.2

theorem ShadowR.ret {α : Type} {t t' : Tx} (h : Shadow k t t') (a : α) : ShadowR k (t, a) (t', a) := ⟨h, rfl⟩

theorem ShadowR.elim {α : Type} {r r' : Tx × α} (h : ShadowR k r r') :
    ∃ t1 t1' a, Shadow k t1 t1' ∧ r = (t1, a) ∧ r' = (t1', a) :=
  ⟨r.1, r'.1, r.2, h.1, rfl, by rw [← h.2]⟩

/-- symmetric, unlike `Shadow`: after a BecomeMonitor both runs hold a monitor, and only shading makes them agree -/
def Sim (k : Option ConnId) (t t' : Tx) : Prop := shade k t'.bus = shade k t.bus ∧ t'.out = t.out

theorem Sim.refl (t : Tx) : Sim k t t := ⟨rfl, rfl⟩
theorem Sim.symm {t t' : Tx} (h : Sim k t t') : Sim k t' t := ⟨h.1.symm, h.2.symm⟩
theorem Sim.trans {a b c : Tx} (h1 : Sim k a b) (h2 : Sim k b c) : Sim k a c := ⟨h2.1.trans h1.1, h2.2.trans h1.2⟩

theorem Shadow.sim {t t' : Tx} (h : Shadow k t t') : Sim k t t' := ⟨by rw [h.1, shade_idem], h.2⟩

/-- every function that respects `Shadow` respects `Sim`: both runs are shadowed by the same shaded run -/
theorem sim_of_shadow2 {α : Type} (f : Tx → Tx × α) (hf : ∀ t t', Shadow k t t' → ShadowR k (f t) (f t')) {t t' : Tx} (h : Sim k t t') :
    Sim k (f t).1 (f t').1 ∧ (f t').2 = (f t).2 := by
  have r1 := hf t { bus := shade k t.bus, out := t.out } ⟨rfl, rfl⟩
  have r2 := hf t' { bus := shade k t.bus, out := t.out } ⟨h.1.symm, h.2.symm⟩
  exact ⟨⟨by rw [← r2.1.1, ← r1.1.1], by rw [← r2.1.2, ← r1.1.2]⟩, by rw [← r2.2, ← r1.2]⟩

theorem sim_of_shadow (f : Tx → Tx) (hf : ∀ t t', Shadow k t t' → Shadow k (f t) (f t')) {t t' : Tx} (h : Sim k t t') :
    Sim k (f t) (f t') :=
  (sim_of_shadow2 (fun t => (f t, ())) (fun t t' h => .ret (hf t t' h) ()) h).1

theorem sim_of_shadow_some {c : ConnId} {T T' : Tx} (h : Shadow (some c) T T') : Sim none T T' :=
  ⟨by rw [h.1, shade_none_shade], h.2⟩

end Dbus.Proofs.Bus
