import Dbus.Proofs.Bus.Generic
import Dbus.Proofs.Bus.Registry
/-
  C04 at the level of the whole bus: in every reachable state every name's owner queue satisfies
  the queue invariant, so the specification theorems of `Registry` apply to every RequestName,
  ReleaseName and disconnection the bus ever processes.
-/
namespace Dbus.Proofs.Bus
open Dbus.Model.Bus

structure SvcOK (l : List Service) : Prop where
  names_nodup : (l.map (·.name)).Nodup
  queues : ∀ s ∈ l, s.owners ≠ [] ∧ QInv s.owners

def ServicesInv (b : Bus) : Prop := SvcOK b.services

theorem ownersOf_qinv {b : Bus} (h : ServicesInv b) (n : Bytes) : QInv (ownersOf b n) := by
  unfold ownersOf Bus.service?
  cases hf : b.services.find? (·.name == n) with
  | none => exact qinv_nil
  | some s => exact (h.queues s (List.mem_of_find?_eq_some hf)).2

theorem servicesInv_setOwners {b : Bus} (h : ServicesInv b) (n : Bytes) {os : List Owner} (hq : QInv os) :
    ServicesInv (b.setOwners n os) := by
  refine setOwners_cases (P := ServicesInv) b n os (fun _ => ?_) (fun hne => ⟨?_, fun s hs => ?_⟩) fun hne hnew => ⟨?_, fun s hs => ?_⟩
  · exact ⟨h.names_nodup.sublist (List.Sublist.map _ List.filter_sublist), fun s hs => h.queues s (List.mem_filter.mp hs).1⟩
  · -- the queue replaced: the names are as before
    show ((b.services.map fun s : Service => if s.name == n then { s with owners := os } else s).map (·.name)).Nodup
    rw [List.map_map, List.map_congr_left (g := (·.name)) fun s _ => by dsimp only [Function.comp]; split <;> rfl]
    exact h.names_nodup
  · obtain ⟨s0, hs0, rfl⟩ := List.mem_map.mp hs
    split
    · exact ⟨hne, hq⟩
    · exact h.queues s0 hs0
  · show ((b.services ++ [({ name := n, owners := os } : Service)]).map (·.name)).Nodup
    rw [List.map_append, List.nodup_append]
    refine ⟨h.names_nodup, by simp, fun a ha x hx => ?_⟩
    rw [List.mem_singleton.mp hx]
    obtain ⟨s, hs, rfl⟩ := List.mem_map.mp ha
    exact hnew s hs
  · rcases List.mem_append.mp hs with hs | hs
    · exact h.queues s hs
    · rw [List.mem_singleton.mp hs]; exact ⟨hne, hq⟩

theorem servicesInv_applyQueue {t : Tx} (h : ServicesInv t.bus) (n : Bytes) {os' : List Owner} (sigs : List Sig) (hq : QInv os') :
    ServicesInv (applyQueue t n os' sigs).bus := by
  unfold ServicesInv
  rw [applyQueue_services]
  exact servicesInv_setOwners h n hq

theorem qinv_qEnsure (c flags : Nat) : QInv (qEnsure c flags).1 := by
  refine ⟨?_, ?_⟩ <;> simp [qEnsure, qAdd, inQueue]

theorem servicesInv_of_services_eq {b b' : Bus} (h : b'.services = b.services) (hi : ServicesInv b) : ServicesInv b' := by
  unfold ServicesInv; rw [h]; exact hi

theorem services_leaves : Leaves (keeps ServicesInv) where
  refl := fun _ h => h
  trans := fun _ _ _ h1 h2 h => h2 (h1 h)
  gate := fun _ _ _ _ _ h => h
  forget := fun _ _ h => h
  expire := fun _ h => h
  expireSome := fun _ _ h => h
  setPolicy := fun _ _ h => h
  acquire := fun t c n flags _ h => acquire_cases (P := fun r => ServicesInv r.1.bus) t c n flags (fun _ => h)
    fun _ => servicesInv_applyQueue h n _ (qinv_qAcquire _ c flags (ownersOf_qinv h n))
  release := fun t c n h => release_cases (P := fun r => ServicesInv r.1.bus) t c n (fun _ => h)
    (servicesInv_applyQueue h n _ (qinv_qRelease _ c (ownersOf_qinv h n)))
  removeOwner := fun t n c h => servicesInv_applyQueue h n _ (qinv_qRemove _ c (ownersOf_qinv h n))
  helloOk := fun t c m _ _ _ h => by
    obtain ⟨M, m', hm⟩ := mint_counters t.bus
    rw [helloOk_bus, hm]
    refine servicesInv_applyQueue ?_ _ _ (qinv_qEnsure c 0)
    exact h
  addRule := fun _ _ _ _ _ h => h
  removeRule := fun _ _ _ _ _ h => h
  gcRules := fun b _ x _ h => by rw [gcRules_frame]; exact h
  installMonitor := fun _ _ _ h => h
  joinMonitors := fun b c x rules h => by rw [joinMonitors_frame]; exact h
  clearRules := fun _ _ h => h
  removeConn := fun _ _ h => h
  connect := fun _ _ _ _ _ _ h => h
  setFull := fun _ _ h => h

theorem servicesInv_init (l : Limits) (p : Policy) : ServicesInv { limits := l, policy := p } :=
  ⟨List.nodup_nil, fun _ hs => nomatch hs⟩

theorem servicesInv_run (tbl : List IfaceRow) (l : Limits) (p : Policy) (evs : List Ev) :
    ServicesInv (run tbl { limits := l, policy := p } evs).1 :=
  invariant_of_leaves services_leaves tbl _ evs (servicesInv_init l p)

end Dbus.Proofs.Bus
