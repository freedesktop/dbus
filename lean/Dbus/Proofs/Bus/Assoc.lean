/-
  Association lists as the models use them: read with `(l.lookup k).getD d`, written with
  `(k, v) :: l.filter (·.1 != k)`, pruned with `filter` on the key.
-/
namespace Dbus.Proofs.Bus

theorem getD_lookup_cases {α β : Type} [BEq α] [LawfulBEq α] {P : β → Prop} (l : List (α × β)) (k : α) (d : β)
    (absent : P d) (stored : ∀ v, (k, v) ∈ l → P v) : P ((l.lookup k).getD d) := by
  cases h : l.lookup k with
  | none => exact absent
  | some v =>
    obtain ⟨l₁, l₂, rfl, _⟩ := List.lookup_eq_some_iff.mp h
    exact stored v (by simp)

theorem getD_lookup_filter {β : Type} (q : Nat → Bool) (d : β) : ∀ (l : List (Nat × β)) (c : Nat),
    ((l.filter (fun p => q p.1)).lookup c).getD d = if q c then (l.lookup c).getD d else d
  | [], c => by simp
  | (a, b) :: l, c => by
    have ih := getD_lookup_filter q d l c
    by_cases hca : c = a
    · subst hca
      cases hq : q c <;> simp [hq, ih]
    · have hca' : (c == a) = false := by simpa using hca
      cases hq : q a <;> simp [hq, List.lookup_cons, hca', ih]

theorem getD_lookup_set {β : Type} (l : List (Nat × β)) (c c' : Nat) (v d : β) :
    (((c, v) :: l.filter (fun p => p.1 != c)).lookup c').getD d = if c' = c then v else (l.lookup c').getD d := by
  rw [List.lookup_cons]
  by_cases h : c' = c
  · subst h; simp
  · have : (c' == c) = false := by simpa using h
    simp only [this, h, if_false]
    rw [getD_lookup_filter (fun k => k != c) d l c']
    simp [bne_iff_ne, h]

theorem filter_not_contains_cons {α κ : Type} [BEq κ] (key : α → κ) (c : κ) (cs : List κ) (l : List α) :
    (l.filter fun x => key x != c).filter (fun x => !cs.contains (key x)) = l.filter fun x => !(c :: cs).contains (key x) := by
  rw [List.filter_filter]
  refine List.filter_congr fun x _ => ?_
  rw [List.contains_cons, Bool.not_or, Bool.and_comm]; rfl

end Dbus.Proofs.Bus
