import Dbus.Model.Bus.Accept
/-
  Whenever a client arrives or the count of incomplete connections changes, `pump` runs, and it re-establishes `Inv` from a
  watch flag that is right and the bound alone (`pump_inv`), provided its fuel outlasts the queue: every caller gives it the
  queue's length plus one.
-/
namespace Dbus.Proofs.Accept
open Dbus.Model.Accept

/-- the listening sockets are watched exactly while there is room, and nobody waits while there is room -/
structure Inv (a : Acc) : Prop where
  flag : a.enabled = decide (a.incomplete.length < a.max)
  bound : a.incomplete.length ≤ a.max
  served : a.incomplete.length < a.max → a.backlog = []

theorem pump_max (fuel : Nat) (a : Acc) : (a.pump fuel).max = a.max := by
  fun_induction Acc.pump fuel a with
  | case1 => rfl
  | case2 => rfl
  | case3 _ _ _ _ _ _ ih => exact ih
  | case4 => rfl

theorem step_max (a : Acc) (ev : Ev) : (a.step ev).max = a.max := by
  cases ev with
  | arrive i => exact pump_max _ _
  | complete i =>
    simp only [Acc.step]
    split
    · exact pump_max _ _
    · rfl
  | gone i =>
    simp only [Acc.step]
    split
    · exact pump_max _ _
    · rfl

theorem run_max (a : Acc) (evs : List Ev) : (a.run evs).max = a.max :=
  List.foldlRecOn (motive := fun a' => a'.max = a.max) evs Acc.step rfl fun a' h' ev _ => (step_max a' ev).trans h'

theorem pump_inv (fuel : Nat) (a : Acc) (hf : a.backlog.length < fuel)
    (h1 : a.enabled = decide (a.incomplete.length < a.max)) (h2 : a.incomplete.length ≤ a.max) :
    Inv (a.pump fuel) := by
  induction fuel generalizing a with
  | zero => omega
  | succ f ih =>
    unfold Acc.pump
    cases he : a.enabled
    · have hfull : ¬ a.incomplete.length < a.max := by simpa [he] using h1.symm
      exact ⟨h1, h2, fun hlt => absurd hlt hfull⟩
    · have hlt : a.incomplete.length < a.max := by simpa [he] using h1.symm
      simp only [if_true]
      cases hb : a.backlog with
      | nil => exact ⟨h1, h2, fun _ => hb⟩
      | cons i rest =>
        rw [hb] at hf
        exact ih _ (by simpa [Acc.check] using Nat.lt_of_succ_lt_succ hf) (by simp [Acc.check])
          (by simpa [Acc.check] using Nat.succ_le_of_lt hlt)

theorem erase_pump_inv (a : Acc) (i : Nat) (h : Inv a) :
    Inv ((({ a with incomplete := a.incomplete.erase i } : Acc).check).pump (a.backlog.length + 1)) :=
  pump_inv _ _ (Nat.lt_succ_self _) rfl (Nat.le_trans List.length_erase_le h.bound)

theorem step_inv (a : Acc) (ev : Ev) (h : Inv a) : Inv (a.step ev) := by
  cases ev with
  | arrive i => exact pump_inv _ _ (Nat.lt_succ_self _) h.flag h.bound
  | complete i =>
    simp only [Acc.step]
    split
    · exact erase_pump_inv a i h
    · exact h
  | gone i =>
    simp only [Acc.step]
    split
    · exact erase_pump_inv a i h
    · exact ⟨h.flag, h.bound, fun hlt => by simp [h.served hlt]⟩

theorem run_inv (a : Acc) (evs : List Ev) (h : Inv a) : Inv (a.run evs) :=
  List.foldlRecOn (motive := Inv) evs Acc.step h fun a' h' ev _ => step_inv a' ev h'

theorem init_inv (max : Nat) (h : 0 < max) : Inv { max := max } :=
  ⟨by simp [h], by simp, fun _ => rfl⟩

end Dbus.Proofs.Accept
