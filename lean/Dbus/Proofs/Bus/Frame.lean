import Dbus.Model.Bus.Core
import Dbus.Proofs.Fields
/-
  The `P` of `Emits P` in use is `OutOK fw`: a message of the bus's own making (`BusMade`: its own name as sender, `KnownFields`
  only) or one it may forward, `stamped` (what goes to the driver is shown under the name the sender has afterwards:
  `step_toDriverCore` in `Generic`).
-/
namespace Dbus.Proofs.Bus
open Dbus.Spec Dbus.Model Dbus.Model.Bus

/-- The bus without its pending replies.  Sending a message changes the bus nowhere else (the gate records and erases
    slots), so `core t'.bus = core t.bus` says all there is to say of the bus along a delivery. -/
def core (b : Bus) : Bus := { b with pending := [] }

@[simp] theorem core_conns (b : Bus) : (core b).conns = b.conns := rfl
@[simp] theorem core_services (b : Bus) : (core b).services = b.services := rfl
@[simp] theorem core_major (b : Bus) : (core b).nextMajor = b.nextMajor := rfl
@[simp] theorem core_minor (b : Bus) : (core b).nextMinor = b.nextMinor := rfl
@[simp] theorem core_limits (b : Bus) : (core b).limits = b.limits := rfl
@[simp] theorem core_policy (b : Bus) : (core b).policy = b.policy := rfl
@[simp] theorem core_setPending (t : Tx) (p : List Pending) : core (t.setPending p).bus = core t.bus := rfl
@[simp] theorem setPending_out (t : Tx) (p : List Pending) : (t.setPending p).out = t.out := rfl
@[simp] theorem emit_bus (t : Tx) (o : Out) : (t.emit o).bus = t.bus := rfl
@[simp] theorem emit_out (t : Tx) (o : Out) : (t.emit o).out = t.out ++ [o] := rfl

theorem senderNameOf_core {b b' : Bus} (h : core b' = core b) (c : ConnId) : senderNameOf b' c = senderNameOf b c :=
  show senderNameOf (core b') c = senderNameOf (core b) c from congrArg (senderNameOf · c) h

theorem inj_of_nodup_map {α β : Type} (f : α → β) {l : List α} (hn : (l.map f).Nodup) {x y : α} (hx : x ∈ l) (hy : y ∈ l)
    (h : f x = f y) : x = y :=
  have hp : l.Pairwise fun a b => f a ≠ f b := List.pairwise_map.mp hn
  List.Pairwise.forall_of_forall_of_flip (R := fun a b => f a = f b → a = b) (fun _ _ _ => rfl) (hp.imp fun hne e => absurd e hne)
    (hp.imp fun hne e => absurd e.symm hne) hx hy h

theorem find?_map_id (l : List Conn) (g : Conn → Conn) (hid : ∀ x, (g x).id = x.id) (c : ConnId) :
    (l.map g).find? (·.id == c) = (l.find? (·.id == c)).map g := by
  rw [List.find?_map]
  exact congrArg (fun p => (l.find? p).map g) (funext fun x => congrArg (· == c) (hid x))

theorem filter_map_length {l : List Conn} {g : Conn → Conn} {p : Conn → Bool} (h : ∀ x, p (g x) = p x) :
    ((l.map g).filter p).length = (l.filter p).length := by
  rw [List.filter_map, List.length_map, show p ∘ g = p from funext h]

theorem nodup_concat {α : Type} {l : List α} {a : α} (hn : l.Nodup) (ha : a ∉ l) : (l ++ [a]).Nodup :=
  (List.perm_append_singleton a l).nodup_iff.mpr (List.nodup_cons.mpr ⟨ha, hn⟩)

theorem ids_map {l : List Conn} {g : Conn → Conn} (h : ∀ x ∈ l, (g x).id = x.id) : (l.map g).map (·.id) = l.map (·.id) := by
  rw [List.map_map]; exact List.map_congr_left h

theorem conn?_mem {b : Bus} {c : ConnId} {x : Conn} (h : b.conn? c = some x) : x ∈ b.conns := List.mem_of_find?_eq_some h
theorem conn?_id {b : Bus} {c : ConnId} {x : Conn} (h : b.conn? c = some x) : x.id = c :=
  beq_iff_eq.mp (List.find?_some (p := fun y : Conn => y.id == c) h)

theorem conn?_eq_none {b : Bus} {c : ConnId} : b.conn? c = none ↔ c ∉ b.conns.map (·.id) := by
  simp only [Bus.conn?, List.find?_eq_none, List.mem_map, beq_iff_eq, not_exists, not_and]

theorem ids_connect {b : Bus} {x : Conn} (hn : (b.conns.map (·.id)).Nodup) (h : b.conn? x.id = none) : ((b.conns ++ [x]).map (·.id)).Nodup := by
  rw [List.map_append]; exact nodup_concat hn (conn?_eq_none.mp h)

theorem ids_removeConn (c : ConnId) {b : Bus} (hn : (b.conns.map (·.id)).Nodup) : ((removeConn c b).conns.map (·.id)).Nodup :=
  hn.sublist (List.filter_sublist.map _)

theorem conn?_of_mem {b : Bus} (hn : (b.conns.map (·.id)).Nodup) {x : Conn} (hx : x ∈ b.conns) : b.conn? x.id = some x := by
  unfold Bus.conn?
  cases hf : b.conns.find? (·.id == x.id) with
  | none => simpa using List.find?_eq_none.mp hf x hx
  | some y => rw [inj_of_nodup_map _ hn (List.mem_of_find?_eq_some hf) hx (by simpa using List.find?_some hf)]

theorem isActive_name {b : Bus} (hn : (b.conns.map (·.id)).Nodup) {x : Conn} (hx : x ∈ b.conns) :
    b.isActive x.id = x.name.isSome := by
  unfold Bus.isActive Bus.nameOf
  rw [conn?_of_mem hn hx]; rfl

theorem name_of_inactive {b : Bus} (hn : (b.conns.map (·.id)).Nodup) {x : Conn} (hx : x ∈ b.conns) (h : b.isActive x.id = false) :
    x.name = none :=
  Option.not_isSome_iff_eq_none.mp (by rw [← isActive_name hn hx, h]; exact Bool.false_ne_true)

theorem nOwned_of_mem {b : Bus} (hn : (b.conns.map (·.id)).Nodup) {x : Conn} (hx : x ∈ b.conns) : nOwned b x.id = x.owned.length := by
  unfold nOwned; rw [conn?_of_mem hn hx]

theorem nRules_of_mem {b : Bus} (hn : (b.conns.map (·.id)).Nodup) {x : Conn} (hx : x ∈ b.conns) : nRules b x.id = x.rules.length := by
  unfold nRules; rw [conn?_of_mem hn hx]

theorem rulesOfConn_of_mem {b : Bus} (hn : (b.conns.map (·.id)).Nodup) {x : Conn} (hx : x ∈ b.conns) : rulesOfConn b x.id = x.rules := by
  unfold rulesOfConn; rw [conn?_of_mem hn hx]

theorem uidOf_of_mem {b : Bus} (hn : (b.conns.map (·.id)).Nodup) {x : Conn} (hx : x ∈ b.conns) : uidOf b x.id = x.uid := by
  unfold uidOf; rw [conn?_of_mem hn hx]

def Ext (t t' : Tx) (l : List Out) : Prop := t'.out = t.out ++ l

theorem foldl_keeps {σ α : Type} {R : σ → σ → Prop} (refl : ∀ s, R s s) (trans : ∀ {s1 s2 s3}, R s1 s2 → R s2 s3 → R s1 s3)
    {f : σ → α → σ} (hf : ∀ s a, R s (f s a)) (l : List α) (s : σ) : R s (l.foldl f s) :=
  List.foldlRecOn l f (refl s) fun _ h a _ => trans h (hf _ a)

theorem foldl_same {σ α β : Type} (g : σ → β) {f : σ → α → σ} (hf : ∀ s a, g (f s a) = g s) (l : List α) (s : σ) :
    g (l.foldl f s) = g s :=
  foldl_keeps (R := fun s s' => g s' = g s) (fun _ => rfl) (fun h1 h2 => h2.trans h1) hf l s

theorem emitTo_frame (m : Msg) (t : Tx) (r : ConnId) : (emitTo m t r).bus = t.bus ∧ (emitTo m t r).out = t.out := ⟨rfl, rfl⟩

theorem emitTo_fold (m : Msg) : ∀ (l : List ConnId) (t : Tx),
    (l.foldl (emitTo m) t).mon = t.mon ++ l.map (Out.deliver · m)
  | [], t => (List.append_nil _).symm
  | r :: l, t => by
    rw [List.foldl_cons, emitTo_fold m l, List.map_cons]
    exact List.append_assoc t.mon [_] _

@[simp] theorem capture_bus (t : Tx) (s a : Option ConnId) (m : Msg) : (capture t s a m).bus = t.bus :=
  foldl_same Tx.bus (f := emitTo m) (fun _ _ => rfl) _ t
@[simp] theorem capture_out (t : Tx) (s a : Option ConnId) (m : Msg) : (capture t s a m).out = t.out :=
  foldl_same Tx.out (f := emitTo m) (fun _ _ => rfl) _ t
@[simp] theorem captureError_bus (t : Tx) (a : Option ConnId) (m : Msg) (e : Err) : (captureError t a m e).bus = t.bus := capture_bus ..
@[simp] theorem captureError_out (t : Tx) (a : Option ConnId) (m : Msg) (e : Err) : (captureError t a m e).out = t.out := capture_out ..

theorem opaque_fold_frame (l : List ConnId) (ser : Nat) (t : Tx) :
    (l.foldl (fun (t : Tx) r => { t with mon := t.mon ++ [Out.opaque r ser] }) t).bus = t.bus ∧
    (l.foldl (fun (t : Tx) r => { t with mon := t.mon ++ [Out.opaque r ser] }) t).out = t.out :=
  List.foldlRecOn (motive := fun t' : Tx => t'.bus = t.bus ∧ t'.out = t.out) l _ ⟨rfl, rfl⟩ fun _ h _ _ => h

theorem checkPolicy_pending {P : List Pending → Prop} (b : Bus) (s a p : Option ConnId) (m : Msg) (same : P b.pending)
    (answered : ∀ l s' r, s = some s' → a = some r → P l → P (l.erase { caller := r, callee := s', serial := m.replySerial }))
    (recorded : ∀ l s' r, s = some s' → a = some r → P l → { caller := s', callee := r, serial := m.serial } ∉ l →
      (l.filter (·.caller == s')).length < b.limits.maxReplies → P ({ caller := s', callee := r, serial := m.serial } :: l)) :
    P (checkPolicy b s a p m).1 := by
  have h1 : P (requestedReply b s a p m).1 := by
    unfold requestedReply
    cases s with
    | none => exact same
    | some s' =>
      refine iteInduction (motive := fun r : List Pending × Bool => P r.1) (fun _ => ?_) fun _ => same
      cases a with
      | none => exact same
      | some r =>
        unfold checkReply
        exact iteInduction (motive := fun r : List Pending × Bool => P r.1) (fun _ => answered _ s' r rfl rfl same) fun _ => same
  have ite : ∀ {c : Prop} [Decidable c] {x y : List Pending × Option Err}, (c → P x.1) → (¬c → P y.1) → P (if c then x else y).1 :=
    iteInduction (motive := fun r : List Pending × Option Err => P r.1)
  unfold checkPolicy
  refine ite (fun _ => same) fun _ => ?_
  generalize requestedReply b s a p m = rr at h1 ⊢
  obtain ⟨pend, req⟩ := rr
  dsimp only at h1 ⊢
  cases policyVerdict b s a p m req with
  | some e => exact h1
  | none =>
    cases s with
    | none => exact h1
    | some s' =>
      cases a with
      | none => exact h1
      | some r =>
        refine ite (fun _ => ?_) fun _ => h1
        unfold expectReply
        refine ite (fun _ => h1) fun _ => ?_
        dsimp only
        refine ite (fun _ => h1) fun hn => ?_
        refine ite (fun _ => h1) fun hl => ?_
        exact recorded pend s' r rfl rfl h1 (by simpa using hn) (by omega)

theorem checkPolicy_pending_same (b : Bus) {s a : Option ConnId} (h : s = none ∨ a = none) (p : Option ConnId) (m : Msg) :
    (checkPolicy b s a p m).1 = b.pending :=
  checkPolicy_pending (P := (· = b.pending)) b s a p m rfl (fun _ _ _ hs ha => by rcases h with rfl | rfl <;> contradiction)
    fun _ _ _ hs ha => by rcases h with rfl | rfl <;> contradiction

theorem checkPolicy_driver (b : Bus) (a p : Option ConnId) (m : Msg) : (checkPolicy b none a p m).1 = b.pending :=
  checkPolicy_pending_same b (.inl rfl) p m

/-- `h`: the gate's answer; `rfl` will do for it -/
theorem sendOne_cases {P : Tx → Prop} {t : Tx} {s a : Option ConnId} {to : ConnId} {m : Msg} {p : List Pending} {err : Option Err}
    (h : checkPolicy t.bus s a (some to) m = (p, err))
    (refused : ∀ e, err = some e → P (captureError (t.setPending p) s m e))
    (noFds : err = none → (decide (m.nFds > 0) && !canFdOf t.bus to) = true → P (captureError (t.setPending p) s m .notSupported))
    (delivered : err = none → (decide (m.nFds > 0) && !canFdOf t.bus to) = false → P ((t.setPending p).emit (.deliver to m))) :
    P (sendOne t s a to m) := by
  unfold sendOne
  rw [h]
  cases err with
  | some e => exact refused e rfl
  | none => exact iteInduction (fun hf => noFds rfl hf) fun hf => delivered rfl (Bool.eq_false_iff.mpr hf)

theorem sendAddressed_cases {P : Tx × Option Err → Prop} {t : Tx} {s : Option ConnId} {a : ConnId} {m : Msg} {p : List Pending}
    {err : Option Err} (h : checkPolicy t.bus s (some a) (some a) m = (p, err))
    (refused : ∀ e, err = some e → P (t.setPending p, some e))
    (noFds : err = none → (decide (m.nFds > 0) && !canFdOf t.bus a) = true → P (t.setPending p, some .notSupported))
    (delivered : err = none → (decide (m.nFds > 0) && !canFdOf t.bus a) = false → P ((t.setPending p).emit (.deliver a m), none)) :
    P (sendAddressed t s a m) := by
  unfold sendAddressed
  rw [h]
  cases err with
  | some e => exact refused e rfl
  | none => exact iteInduction (fun hf => noFds rfl hf) fun hf => delivered rfl (Bool.eq_false_iff.mpr hf)

theorem sendAddressed_conns (t : Tx) (s : Option ConnId) (a : ConnId) (m : Msg) : (sendAddressed t s a m).1.bus.conns = t.bus.conns :=
  sendAddressed_cases (P := fun r => r.1.bus.conns = t.bus.conns) rfl (fun _ _ => rfl) (fun _ _ => rfl) fun _ _ => rfl

theorem dispatchMatches_cases {P : Tx × Option Err → Prop} {t : Tx} {s : Option ConnId} {a : ConnId} {m : Msg} {p : List Pending}
    {err : Option Err} (h : checkPolicy t.bus s (some a) (some a) m = (p, err))
    (refused : ∀ e, P (t.setPending p, some e))
    (delivered : err = none → (decide (m.nFds > 0) && !canFdOf t.bus a) = false →
      P (sendMatches ((t.setPending p).emit (.deliver a m)) s (some a) m, none)) : P (dispatchMatches t s (some a) m) := by
  unfold dispatchMatches
  exact sendAddressed_cases (P := fun r => P (match r with | (t, some e) => (t, some e) | (t, none) => (sendMatches t s (some a) m, none)))
    h (fun e _ => refused e) (fun _ _ => refused _) delivered

/-- a relation on transactions kept by everything that delivering `m`, sent by `s` and addressed to `a`, consists of -/
structure Delivery (R : Tx → Tx → Prop) (s a : Option ConnId) (m : Msg) : Prop where
  refl : ∀ t, R t t
  trans : ∀ {t1 t2 t3}, R t1 t2 → R t2 t3 → R t1 t3
  gate : ∀ t p, R t (t.setPending (checkPolicy t.bus s a p m).1)
  emit : ∀ t to, R t (t.emit (.deliver to m))
  capture : ∀ t s' a' m', R t (capture t s' a' m')

namespace Delivery
variable {R : Tx → Tx → Prop} {s a : Option ConnId} {m : Msg}

theorem sendOne (D : Delivery R s a m) (t : Tx) (to : ConnId) : R t (sendOne t s a to m) :=
  have g := D.gate t (some to)
  sendOne_cases (P := R t) rfl (fun _ _ => D.trans g (D.capture ..)) (fun _ _ => D.trans g (D.capture ..)) fun _ _ => D.trans g (D.emit ..)

theorem sendMatches (D : Delivery R s a m) (t : Tx) : R t (sendMatches t s a m) :=
  foldl_keeps D.refl D.trans (fun t r => D.sendOne t r) _ t

theorem dispatchMatches (D : Delivery R s a m) (t : Tx) : R t (dispatchMatches t s a m).1 := by
  cases a with
  | none => exact D.sendMatches t
  | some a =>
    have g := D.gate t (some a)
    exact dispatchMatches_cases (P := fun r => R t r.1) rfl (fun _ => g) fun _ _ => D.trans (D.trans g (D.emit ..)) (D.sendMatches _)

theorem sendStamped {to : ConnId} (D : Delivery R none (some to) m) (t : Tx) : R t (sendStamped t to m) := by
  unfold Bus.sendStamped
  have g := D.gate t (some to)
  generalize checkPolicy t.bus none (some to) (some to) m = r at g ⊢
  rcases r with ⟨p, _ | e⟩
  · exact D.trans g (D.emit ..)
  · exact D.trans g (D.capture ..)

theorem sendFromDriver {to : ConnId} (t : Tx) {m : Msg} (D : Delivery R none (some to) (stampDriver t.bus to m)) :
    R t (sendFromDriver t to m) :=
  D.trans (D.capture t none (some to) (stampDriver t.bus to m)) (D.sendStamped _)

end Delivery

def MonExt (t t' : Tx) : Prop := ∃ l, t'.mon = t.mon ++ l

theorem MonExt.delivery (s a : Option ConnId) (m : Msg) : Delivery MonExt s a m where
  refl t := ⟨[], (List.append_nil _).symm⟩
  trans := fun ⟨l1, e1⟩ ⟨l2, e2⟩ => ⟨l1 ++ l2, by rw [e2, e1, List.append_assoc]⟩
  gate t _ := ⟨[], (List.append_nil _).symm⟩
  emit t _ := ⟨[], (List.append_nil _).symm⟩
  capture t _ _ m' := ⟨_, emitTo_fold m' _ t⟩

theorem shown_first {t T : Tx} {s a : Option ConnId} {m : Msg} (h : MonExt (capture t s a m) T) :
    ∃ rest, T.mon = t.mon ++ (captureTargets t.bus s a m).map (Out.deliver · m) ++ rest :=
  h.imp fun l hl => by rw [hl]; exact congrArg (· ++ l) (emitTo_fold m _ t)

theorem setPending_self (t : Tx) : t.setPending t.bus.pending = t := rfl

theorem Delivery.driver_bus (a : Option ConnId) (m : Msg) : Delivery (fun t t' => t'.bus = t.bus) none a m where
  refl := fun _ => rfl
  trans := fun h1 h2 => h2.trans h1
  gate := fun t p => by
    show ({ t.bus with pending := (checkPolicy t.bus none a p m).1 } : Bus) = t.bus
    rw [checkPolicy_driver]
  emit := fun _ _ => rfl
  capture := fun t s' a' m' => capture_bus t s' a' m'

theorem sendFromDriver_bus (t : Tx) (to : ConnId) (m : Msg) : (sendFromDriver t to m).bus = t.bus :=
  (Delivery.driver_bus ..).sendFromDriver t

theorem emitSig_bus (n : Bytes) (t : Tx) (s : Sig) : (emitSig n t s).bus = t.bus := by
  cases s with
  | lost c => exact sendFromDriver_bus _ _ _
  | acquired c => exact sendFromDriver_bus _ _ _
  | changed o w => exact ((Delivery.driver_bus none (ownerChangedMsg n _ _)).dispatchMatches _).trans (capture_bus ..)

theorem reply_bus (t : Tx) (c : ConnId) (call : Msg) (tys : List Ty) (body : List Val) : (reply t c call tys body).bus = t.bus :=
  sendFromDriver_bus _ _ _

theorem fold_sublist {α : Type} (f : Tx → α → Tx) (I : Tx → Prop) (g : α → Out)
    (hf : ∀ t a, I t → I (f t a) ∧ ((f t a).out = t.out ∨ (f t a).out = t.out ++ [g a])) :
    ∀ (l : List α) (t : Tx), I t → I (l.foldl f t) ∧ ∃ o, (l.foldl f t).out = t.out ++ o ∧ o.Sublist (l.map g)
  | [], _, h => ⟨h, [], (List.append_nil _).symm, .slnil⟩
  | a :: l, t, h => by
    obtain ⟨hi, o, ho, hs⟩ := fold_sublist f I g hf l (f t a) (hf t a h).1
    refine ⟨hi, ?_⟩
    rcases (hf t a h).2 with e | e
    · exact ⟨o, by rw [List.foldl_cons, ho, e], hs.cons _⟩
    · exact ⟨g a :: o, by rw [List.foldl_cons, ho, e, List.append_assoc]; rfl, hs.cons_cons _⟩

theorem sendFromDriver_spec (t : Tx) (to : ConnId) (m : Msg) :
    core (sendFromDriver t to m).bus = core t.bus ∧
    ((sendFromDriver t to m).out = t.out ∨
     (sendFromDriver t to m).out = t.out ++ [.deliver to (stampDriver t.bus to m)]) := by
  refine ⟨congrArg core (sendFromDriver_bus t to m), ?_⟩
  unfold sendFromDriver sendStamped
  rcases checkPolicy (capture t none (some to) (stampDriver t.bus to m)).bus none (some to) (some to) (stampDriver t.bus to m) with ⟨p, _ | e⟩
  · exact .inr (by simp)
  · exact .inl (by simp)

theorem sendOne_out (t : Tx) (s a : Option ConnId) (to : ConnId) (m : Msg) :
    (sendOne t s a to m).out = t.out ∨ (sendOne t s a to m).out = t.out ++ [.deliver to m] :=
  sendOne_cases (P := fun r => r.out = t.out ∨ r.out = t.out ++ [.deliver to m]) rfl
    (fun _ _ => .inl (captureError_out ..)) (fun _ _ => .inl (captureError_out ..)) fun _ _ => .inr rfl

theorem mem_recipients (b : Bus) (s a : Option ConnId) (m : Msg) (r : ConnId) :
    r ∈ recipients b s a m ↔
      ∃ x ∈ b.conns, x.id = r ∧ x.monitor = false ∧ some r ≠ a ∧
        ∃ rule ∈ x.rules, ruleMatches rule (matchCtx b s a m) = true := by
  unfold recipients
  simp only [List.mem_map, List.mem_filter, Bool.and_eq_true, Bool.not_eq_true', bne_iff_ne, ne_eq, List.any_eq_true]
  constructor
  · rintro ⟨x, ⟨hx, ⟨hm, hne⟩, rule, hr, hmatch⟩, rfl⟩
    exact ⟨x, hx, rfl, hm, hne, rule, hr, hmatch⟩
  · rintro ⟨x, hx, rfl, hm, hne, rule, hr, hmatch⟩
    exact ⟨x, ⟨hx, ⟨hm, hne⟩, rule, hr, hmatch⟩, rfl⟩

theorem not_mem_recipients (b : Bus) (s : Option ConnId) (a : ConnId) (m : Msg) : a ∉ recipients b s (some a) m := fun h =>
  have ⟨_, _, _, _, hne, _⟩ := (mem_recipients b s (some a) m a).mp h
  hne rfl

theorem sendMatches_sublist (t : Tx) (s a : Option ConnId) (m : Msg) :
    ∃ l, (sendMatches t s a m).out = t.out ++ l ∧
      l.Sublist ((recipients t.bus s a m).map fun r => Out.deliver r m) :=
  (fold_sublist _ (fun _ => True) (Out.deliver · m) (fun t r _ => ⟨trivial, sendOne_out t s a r m⟩) _ t trivial).2

theorem dispatchMatches_granted {t : Tx} {s : Option ConnId} {a : ConnId} {m : Msg} {p : List Pending}
    (hpol : checkPolicy t.bus s (some a) (some a) m = (p, none)) (hfd : (decide (m.nFds > 0) && !canFdOf t.bus a) = false) :
    dispatchMatches t s (some a) m = (sendMatches ((t.setPending p).emit (.deliver a m)) s (some a) m, none) := by
  unfold dispatchMatches sendAddressed
  dsimp only
  rw [hpol]
  dsimp only
  rw [if_neg (by rw [hfd]; exact Bool.false_ne_true)]

theorem dispatchMatches_refused {t : Tx} {s : Option ConnId} {a : ConnId} {m : Msg} {p : List Pending} {e : Err}
    (hpol : checkPolicy t.bus s (some a) (some a) m = (p, some e)) : dispatchMatches t s (some a) m = (t.setPending p, some e) := by
  unfold dispatchMatches sendAddressed
  dsimp only
  rw [hpol]

/-- no unknown header field and no CONTAINER_INSTANCE -/
def KnownFields (m : Msg) : Prop := ∀ f ∈ m.fields, f.code ≤ 9

def BusMade (m : Msg) : Prop := m.sender = some BUS_NAME ∧ KnownFields m

@[simp] theorem strField_code (c : Nat) (s : Bytes) : (strField c s).code = c := rfl
@[simp] theorem u32Field_code (c n : Nat) : (u32Field c n).code = c := rfl
@[simp] theorem sigField_code (ts : List Ty) : (sigField ts).code = 8 := rfl
@[simp] theorem pathField_code (s : Bytes) : (pathField s).code = 1 := rfl

theorem sender_setSender (m : Msg) (s : Bytes) : (m.setSender s).sender = some s := by
  unfold Msg.sender Msg.setSender Msg.setField
  rw [Dbus.Proofs.Message.getField_set, if_pos (strField_code ..)]; rfl

theorem sender_setDest (m : Msg) (s : Bytes) : (m.setDest s).sender = m.sender := by
  unfold Msg.sender Msg.setDest Msg.setField
  rw [Dbus.Proofs.Message.getField_set, if_neg (by rw [strField_code]; decide)]

theorem known_setSender {m : Msg} (h : KnownFields m) (s : Bytes) : KnownFields (m.setSender s) :=
  Dbus.Proofs.Message.forall_mem_setFieldList h (by simp [FIELD_SENDER])
theorem known_setDest {m : Msg} (h : KnownFields m) (s : Bytes) : KnownFields (m.setDest s) :=
  Dbus.Proofs.Message.forall_mem_setFieldList h (by simp [FIELD_DESTINATION])

theorem stampDriver_busMade (b : Bus) (to : ConnId) {m : Msg} (h : KnownFields m) : BusMade (stampDriver b to m) := by
  unfold stampDriver
  cases b.nameOf to with
  | none => exact ⟨sender_setSender m _, known_setSender h _⟩
  | some n =>
    refine ⟨?_, ?_⟩
    · show ((m.setSender BUS_NAME).setDest n).sender = _
      rw [sender_setDest, sender_setSender]
    · exact known_setDest (known_setSender h _) n

theorem replySerial_setField (m : Msg) (f : Field) (h : f.code ≠ FIELD_REPLY_SERIAL) :
    (m.setField f).replySerial = m.replySerial := by
  unfold Msg.replySerial Msg.setField
  rw [Dbus.Proofs.Message.getField_set, if_neg h]

theorem replySerial_stampDriver (b : Bus) (to : ConnId) (m : Msg) : (stampDriver b to m).replySerial = m.replySerial := by
  have hs : (m.setSender BUS_NAME).replySerial = m.replySerial :=
    replySerial_setField m _ (by simp [strField, FIELD_SENDER, FIELD_REPLY_SERIAL])
  unfold stampDriver
  cases b.nameOf to with
  | none =>
    show ((m.setSender BUS_NAME).setNoReply).replySerial = _
    exact hs
  | some n =>
    show (((m.setSender BUS_NAME).setDest n).setNoReply).replySerial = _
    exact (replySerial_setField (m.setSender BUS_NAME) (strField FIELD_DESTINATION n)
      (by simp [strField, FIELD_DESTINATION, FIELD_REPLY_SERIAL])).trans hs

theorem stampDriver_mtype (b : Bus) (to : ConnId) (m : Msg) : (stampDriver b to m).mtype = m.mtype := by
  unfold stampDriver
  cases b.nameOf to <;> rfl

theorem stampDriver_body (b : Bus) (to : ConnId) (m : Msg) : (stampDriver b to m).body = m.body := by
  unfold stampDriver
  cases b.nameOf to <;> rfl

theorem sendFromDriver_shape (t : Tx) (to : ConnId) {m : Msg} (hk : KnownFields m) :
    (sendFromDriver t to m).out = t.out ∨
    ∃ x, (sendFromDriver t to m).out = t.out ++ [Out.deliver to x] ∧ x.mtype = m.mtype ∧ x.replySerial = m.replySerial ∧
      x.body = m.body ∧ x.sender = some BUS_NAME :=
  (sendFromDriver_spec t to m).2.imp_right fun h =>
    ⟨_, h, stampDriver_mtype .., replySerial_stampDriver .., stampDriver_body .., (stampDriver_busMade t.bus to hk).1⟩

section
variable {mtype : Nat} {fields : List Field} {tys : List Ty} {body : List Val}

theorem mkMsg_fields (mtype : Nat) (fields : List Field) (tys : List Ty) (body : List Val) :
    ∃ sig, (mkMsg mtype fields tys body).fields = fields ++ sig ∧ ∀ f ∈ sig, f.code = FIELD_SIGNATURE := by
  unfold mkMsg
  cases tys.isEmpty
  · exact ⟨[sigField tys], rfl, by simp [FIELD_SIGNATURE]⟩
  · exact ⟨[], (List.append_nil _).symm, nofun⟩

theorem getField_mkMsg {c : Nat} (hc : c ≠ FIELD_SIGNATURE) :
    getField (mkMsg mtype fields tys body).fields c = getField fields c := by
  obtain ⟨sig, e, hs⟩ := mkMsg_fields mtype fields tys body
  have hn : sig.find? (·.code = c) = none := List.find?_eq_none.mpr fun f hf => by simpa [hs f hf] using Ne.symm hc
  rw [e, getField, List.find?_append, hn, Option.or_none]; rfl

theorem known_mkMsg (h : ∀ f ∈ fields, f.code ≤ 9) : KnownFields (mkMsg mtype fields tys body) := by
  obtain ⟨sig, e, hs⟩ := mkMsg_fields mtype fields tys body
  intro f hf
  rw [e] at hf
  rcases List.mem_append.mp hf with hf | hf
  · exact h f hf
  · rw [hs f hf]; decide

theorem sender_mkMsg_none (h : ∀ f ∈ fields, f.code ≠ FIELD_SENDER) : (mkMsg mtype fields tys body).sender = none := by
  rw [Msg.sender, getField_mkMsg (by decide), Dbus.Proofs.Message.getField_eq_none.mpr h]; rfl

theorem replySerial_mkMsg : (mkMsg mtype fields tys body).replySerial = natOf (getField fields FIELD_REPLY_SERIAL) :=
  congrArg natOf (getField_mkMsg (by decide))

end

theorem known_mkReturn (call : Msg) (tys : List Ty) (body : List Val) : KnownFields (mkReturn call tys body) :=
  known_mkMsg (by cases call.sender <;> simp [FIELD_REPLY_SERIAL, FIELD_DESTINATION])

theorem known_mkError (m : Msg) (e : Err) : KnownFields (mkError m e) :=
  known_mkMsg (by cases m.sender <;> simp [FIELD_REPLY_SERIAL, FIELD_ERROR_NAME, FIELD_DESTINATION])

theorem known_mkSignal (member : Bytes) (tys : List Ty) (body : List Val) : KnownFields (mkSignal member tys body) :=
  known_mkMsg (mtype := 4) (by simp [FIELD_INTERFACE, FIELD_MEMBER])

theorem replySerial_mkReturn (m : Msg) (tys : List Ty) (body : List Val) : (mkReturn m tys body).replySerial = m.serial :=
  replySerial_mkMsg

theorem replySerial_mkError (m : Msg) (e : Err) : (mkError m e).replySerial = m.serial :=
  replySerial_mkMsg

theorem sender_mkReturn_none (m : Msg) (tys : List Ty) (body : List Val) : (mkReturn m tys body).sender = none :=
  sender_mkMsg_none (by cases m.sender <;> simp [FIELD_REPLY_SERIAL, FIELD_DESTINATION, FIELD_SENDER])

theorem sender_mkError_none (m : Msg) (e : Err) : (mkError m e).sender = none :=
  sender_mkMsg_none (by cases m.sender <;> simp [FIELD_REPLY_SERIAL, FIELD_ERROR_NAME, FIELD_DESTINATION, FIELD_SENDER])

/-- what a step may append to the output; `fw` holds of the messages it may forward -/
def OutOK (fw : Msg → Prop) : Out → Prop
  | .deliver _ m => BusMade m ∨ fw m
  | .opaque _ _ => True
  | .close _ => True

abbrev Made : Out → Prop := OutOK fun _ => False

theorem Made.ok {fw : Msg → Prop} : ∀ {o : Out}, Made o → OutOK fw o
  | .deliver _ _, h => h.imp_right False.elim
  | .opaque _ _, _ => trivial
  | .close _, _ => trivial

theorem Made.busMade : ∀ {o : Out}, Made o → match o with | .deliver _ x => BusMade x | _ => True
  | .deliver _ _, h => h.resolve_right id
  | .opaque _ _, _ => trivial
  | .close _, _ => trivial

def Emits (P : Out → Prop) (t t' : Tx) : Prop := ∃ l, t'.out = t.out ++ l ∧ ∀ o ∈ l, P o

section
variable {P Q : Out → Prop} {t t1 t2 t3 t' : Tx} {c : ConnId}

theorem Emits.same (h : t'.out = t.out) : Emits P t t' := ⟨[], by simp [h], by intro o ho; cases ho⟩
theorem Emits.one {o : Out} (h : t'.out = t.out ++ [o]) (ho : P o) : Emits P t t' :=
  ⟨[o], h, by intro x hx; rw [List.mem_singleton.mp hx]; exact ho⟩
theorem Emits.trans (h1 : Emits P t1 t2) (h2 : Emits P t2 t3) : Emits P t1 t3 := by
  obtain ⟨l1, e1, p1⟩ := h1
  obtain ⟨l2, e2, p2⟩ := h2
  exact ⟨l1 ++ l2, by rw [e2, e1, List.append_assoc], fun o ho => (List.mem_append.mp ho).elim (p1 o) (p2 o)⟩
theorem Emits.mono (h : ∀ o, P o → Q o) (he : Emits P t t') : Emits Q t t' :=
  let ⟨l, e, p⟩ := he; ⟨l, e, fun o ho => h o (p o ho)⟩
theorem Emits.all (h : Emits P t t') (h0 : t.out = []) : ∀ o ∈ t'.out, P o := by
  obtain ⟨l, e, p⟩ := h
  rw [e, h0]; exact p

inductive Acts (c : ConnId) : Bus → Bus → Prop
  | refl (b) : Acts c b b
  | trans {b1 b2 b3} : Acts c b1 b2 → Acts c b2 b3 → Acts c b1 b3
  | gate (b s a p m) : Acts c b { b with pending := (checkPolicy b s a p m).1 }
  | forget (b d) : Acts c b { b with pending := b.pending.filter fun p => !involves d p }
  | acquire (t : Tx) (n flags) : t.bus.isActive c = true → Acts c t.bus (acquire t c n flags).1.bus
  | release (t : Tx) (n) : Acts c t.bus (release t c n).1.bus
  | removeOwner (t : Tx) (n) : Acts c t.bus (removeOwner t n c).bus
  | helloOk (t : Tx) (m) : t.bus.isActive c = false → nCompleted t.bus < t.bus.limits.maxCompleted →
      nCompletedFor t.bus (uidOf t.bus c) < t.bus.limits.maxPerUser → Acts c t.bus (helloOk t c m).bus
  | addRule (b r) : b.isActive c = true → nRules b c < b.limits.maxRules → Acts c b (b.updRules c (· ++ [r]))
  | removeRule (b r rs') : removeRule (rulesOfConn b c) r = some rs' → Acts c b (b.updRules c fun _ => rs')
  | gcRules (b x) : b.conn? c = some x → Acts c b (gcRules b x)
  | installMonitor (b rules) : Acts c b (installMonitorRules c rules b)
  | joinMonitors (b x rules) : Acts c b (joinMonitors c x rules b)
  | clearRules (b) : Acts c b (clearRules b c)
  | removeConn (b) : Acts c b (removeConn c b)

structure Step (c : ConnId) (P : Out → Prop) (t t' : Tx) : Prop where
  bus : Acts c t.bus t'.bus
  out : Emits P t t'

theorem Step.refl (t : Tx) : Step c P t t := ⟨.refl _, .same rfl⟩
theorem Step.trans (h1 : Step c P t1 t2) (h2 : Step c P t2 t3) : Step c P t1 t3 := ⟨h1.bus.trans h2.bus, h1.out.trans h2.out⟩
theorem Step.mono (h : ∀ o, P o → Q o) (hs : Step c P t t') : Step c Q t t' := ⟨hs.bus, hs.out.mono h⟩
theorem Step.made {fw : Msg → Prop} (h : Step c Made t t') : Step c (OutOK fw) t t' := h.mono fun _ => Made.ok
theorem Step.quiet (hb : t'.bus = t.bus) (ho : t'.out = t.out) : Step c P t t' := ⟨hb ▸ .refl _, .same ho⟩
theorem Step.state {b' : Bus} (h : Acts c t.bus b') : Step c P t { t with bus := b' } := ⟨h, .same rfl⟩

theorem Step.foldl {α : Type} (f : Tx → α → Tx) (hf : ∀ t a, Step c P t (f t a)) : ∀ (l : List α) (t : Tx), Step c P t (l.foldl f t) :=
  foldl_keeps Step.refl Step.trans hf

theorem Step.delivery (s a : Option ConnId) {m : Msg} (hm : ∀ to, P (.deliver to m)) : Delivery (Step c P) s a m where
  refl := Step.refl
  trans := Step.trans
  gate := fun _ _ => ⟨.gate .., .same rfl⟩
  emit := fun _ to => ⟨.refl _, .one rfl (hm to)⟩
  capture := fun _ _ _ _ => .quiet (capture_bus ..) (capture_out ..)

theorem Delivery.core_emits (s a : Option ConnId) {m : Msg} (hm : ∀ to, P (.deliver to m)) :
    Delivery (fun t t' => core t'.bus = core t.bus ∧ Emits P t t') s a m where
  refl := fun _ => ⟨rfl, .same rfl⟩
  trans := fun h1 h2 => ⟨h2.1.trans h1.1, h1.2.trans h2.2⟩
  gate := fun _ _ => ⟨rfl, .same rfl⟩
  emit := fun _ to => ⟨rfl, .one rfl (hm to)⟩
  capture := fun _ _ _ _ => ⟨by simp, .same (capture_out ..)⟩

def AllDeliver (m : Msg) (l : List Out) : Prop := ∀ o ∈ l, ∃ to, o = .deliver to m

theorem sendMatches_spec (t : Tx) (s a : Option ConnId) (m : Msg) :
    core (sendMatches t s a m).bus = core t.bus ∧
    ∃ l, (sendMatches t s a m).out = t.out ++ l ∧ AllDeliver m l :=
  (Delivery.core_emits s a fun to => ⟨to, rfl⟩).sendMatches t

theorem dispatchMatches_spec (t : Tx) (s a : Option ConnId) (m : Msg) :
    core (dispatchMatches t s a m).1.bus = core t.bus ∧
    ∃ l, (dispatchMatches t s a m).1.out = t.out ++ l ∧ AllDeliver m l :=
  (Delivery.core_emits s a fun to => ⟨to, rfl⟩).dispatchMatches t

/-! The larger functions by cases, for any property of the result; with `iteInduction` and `cases` on the scrutinee, since
`split` simplifies the whole remaining body again at every level. -/

theorem setOwners_cases {P : Bus → Prop} (b : Bus) (n : Bytes) (os : List Owner)
    (gone : os = [] → P { b with services := b.services.filter (·.name != n) })
    (changed : os ≠ [] → P { b with services := b.services.map fun s => if s.name == n then { s with owners := os } else s })
    (new : os ≠ [] → (∀ s ∈ b.services, s.name ≠ n) → P { b with services := b.services ++ [{ name := n, owners := os }] }) :
    P (b.setOwners n os) := by
  unfold Bus.setOwners
  refine iteInduction (fun h => gone (by simpa using h)) fun h => ?_
  have hne : os ≠ [] := by simpa using h
  exact iteInduction (fun _ => changed hne) fun h => new hne (by simpa using h)

theorem setOwners_frame (b : Bus) (n : Bytes) (os : List Owner) : b.setOwners n os = { b with services := (b.setOwners n os).services } :=
  setOwners_cases (P := fun r => r = { b with services := r.services }) b n os (fun _ => rfl) (fun _ => rfl) fun _ _ => rfl

theorem mem_setOwners {b : Bus} {n : Bytes} {os : List Owner} {s : Service} :
    s ∈ (b.setOwners n os).services → (s.name = n ∧ s.owners = os) ∨ (s ∈ b.services ∧ s.name ≠ n) := by
  refine setOwners_cases (P := fun b' => s ∈ b'.services → _) b n os (fun _ h => ?_) (fun _ h => ?_) fun _ hnew h => ?_
  · exact .inr (by simpa using h)
  · obtain ⟨s0, hs0, rfl⟩ := List.mem_map.mp h
    by_cases hn : s0.name = n
    · exact .inl (by simp [hn])
    · exact .inr (by simp [hn, hs0])
  · rcases List.mem_append.mp h with h | h
    · exact .inr ⟨h, hnew s h⟩
    · exact .inl (by rw [List.mem_singleton.mp h]; exact ⟨rfl, rfl⟩)

theorem ownersOf_mem {b : Bus} {n : Bytes} {d : ConnId} (h : inQueue (ownersOf b n) d = true) :
    ∃ s ∈ b.services, s.name = n ∧ s.owners = ownersOf b n := by
  unfold ownersOf at h ⊢
  cases hs : b.service? n with
  | none => rw [hs] at h; cases h
  | some s => exact ⟨s, List.mem_of_find?_eq_some hs, beq_iff_eq.mp (List.find?_some (p := fun s : Service => s.name == n) hs), rfl⟩

theorem syncOwned_conns (b : Bus) (n : Bytes) (os os' : List Owner) :
    (syncOwned b n os os').conns = b.conns.map fun x =>
      { x with
        owned :=
          if !inQueue os x.id && inQueue os' x.id then x.owned ++ [n]
          else if inQueue os x.id && !inQueue os' x.id then removeLast x.owned n else x.owned } := by
  unfold syncOwned inQueue
  refine List.map_congr_left fun x _ => ?_
  dsimp only
  split
  · rfl
  · split <;> rfl

theorem syncOwned_setOwners (b : Bus) (n : Bytes) (os os' : List Owner) :
    syncOwned (b.setOwners n os') n os os' =
      { b with
        services := (b.setOwners n os').services
        conns := b.conns.map fun x =>
          { x with
            owned :=
              if !inQueue os x.id && inQueue os' x.id then x.owned ++ [n]
              else if inQueue os x.id && !inQueue os' x.id then removeLast x.owned n else x.owned } } := by
  rw [← syncOwned_conns]
  exact congrArg (syncOwned · n os os') (setOwners_frame b n os')

theorem applyQueue_bus (t : Tx) (n : Bytes) (os' : List Owner) (sigs : List Sig) :
    (applyQueue t n os' sigs).bus = syncOwned (t.bus.setOwners n os') n (ownersOf t.bus n) os' := by
  unfold applyQueue
  dsimp only
  rw [foldl_same Tx.bus (emitSig_bus n)]

theorem applyQueue_services (t : Tx) (n : Bytes) (os' : List Owner) (sigs : List Sig) :
    (applyQueue t n os' sigs).bus.services = (t.bus.setOwners n os').services := by
  rw [applyQueue_bus, syncOwned_setOwners]

theorem applyQueue_pending (t : Tx) (n : Bytes) (os' : List Owner) (sigs : List Sig) :
    (applyQueue t n os' sigs).bus.pending = t.bus.pending := by
  rw [applyQueue_bus, syncOwned_setOwners]

theorem mem_removeLast_of_ne {l : List Bytes} {a n : Bytes} (h : a ∈ l) (hne : a ≠ n) : a ∈ removeLast l n := by
  unfold removeLast
  rw [List.mem_reverse]
  exact (List.mem_erase_of_ne hne).mpr (List.mem_reverse.mpr h)

theorem applyQueue_limits (t : Tx) (n : Bytes) (os' : List Owner) (sigs : List Sig) :
    (applyQueue t n os' sigs).bus.limits = t.bus.limits := by
  rw [applyQueue_bus, syncOwned_setOwners]

/-- The first clause has a premise because `syncOwned` appends `n` only for those who
    join the queue: who stood in it already must have had `n` before. -/
theorem applyQueue_conns (t : Tx) (n : Bytes) (os' : List Owner) (sigs : List Sig) :
    ∃ f : Conn → List Bytes, (applyQueue t n os' sigs).bus.conns = t.bus.conns.map (fun x => { x with owned := f x }) ∧
      ∀ x, (inQueue os' x.id = true → (inQueue (ownersOf t.bus n) x.id = true → n ∈ x.owned) → n ∈ f x) ∧
        ∀ a ∈ x.owned, a ≠ n → a ∈ f x := by
  refine ⟨_, congrArg Bus.conns ((applyQueue_bus ..).trans (syncOwned_setOwners ..)), fun x => ?_⟩
  split
  · exact ⟨fun _ _ => List.mem_append_right _ (List.mem_singleton.mpr rfl), fun a ha _ => List.mem_append_left _ ha⟩
  · rename_i h1
    split
    · rename_i h2
      refine ⟨fun his => ?_, fun a ha hne => mem_removeLast_of_ne ha hne⟩
      rw [his] at h2
      simp at h2
    · refine ⟨fun his hwas => hwas ?_, fun a ha _ => ha⟩
      rw [his] at h1
      simpa using h1

theorem mintAux_counters : ∀ (f : Nat) (b : Bus), ∃ M m, (mintAux f b).1 = { b with nextMajor := M, nextMinor := m }
  | 0, _ => ⟨_, _, rfl⟩
  | f + 1, b => by
    unfold mintAux
    refine iteInduction (motive := fun r : Bus × Bytes => ∃ M m, r.1 = { b with nextMajor := M, nextMinor := m })
      (fun _ => ⟨_, _, rfl⟩) fun _ => ?_
    exact mintAux_counters f (bump b).1

theorem mint_counters (b : Bus) : ∃ M m, (mint b).1 = { b with nextMajor := M, nextMinor := m } := mintAux_counters _ b

def activateConn (b : Bus) (c : ConnId) (nm : Bytes) (x : Conn) : Conn :=
  if x.id == c then { x with name := some nm, policy := b.policy.clientPolicy b.limits.maxFdsDefault x.uid x.gids false } else x

theorem activate_eq (b : Bus) (c : ConnId) (nm : Bytes) :
    activate b c nm = { b with conns := b.conns.map (activateConn b c nm), minted := nm :: b.minted } := rfl

theorem activateConn_id (b : Bus) (c : ConnId) (nm : Bytes) (x : Conn) : (activateConn b c nm x).id = x.id := by
  unfold activateConn; split <;> rfl
theorem activateConn_uid (b : Bus) (c : ConnId) (nm : Bytes) (x : Conn) : (activateConn b c nm x).uid = x.uid := by
  unfold activateConn; split <;> rfl
theorem activateConn_monitor (b : Bus) (c : ConnId) (nm : Bytes) (x : Conn) : (activateConn b c nm x).monitor = x.monitor := by
  unfold activateConn; split <;> rfl
theorem activateConn_owned (b : Bus) (c : ConnId) (nm : Bytes) (x : Conn) : (activateConn b c nm x).owned = x.owned := by
  unfold activateConn; split <;> rfl
theorem activateConn_name (b : Bus) (c : ConnId) (nm : Bytes) (x : Conn) :
    (activateConn b c nm x).name = if x.id == c then some nm else x.name := by
  unfold activateConn; split <;> rfl
theorem activateConn_of_ne (b : Bus) {c : ConnId} (nm : Bytes) {x : Conn} (h : x.id ≠ c) : activateConn b c nm x = x :=
  if_neg (by simpa using h)

theorem helloOk_bus (t : Tx) (c : ConnId) (m : Msg) :
    (helloOk t c m).bus =
      (applyQueue { bus := activate (mint t.bus).1 c (mint t.bus).2 } (mint t.bus).2 (qEnsure c 0).1 (qEnsure c 0).2).bus := by
  unfold helloOk ensureService
  rw [applyQueue_bus, applyQueue_bus, reply_bus]

theorem gcRules_cases {P : Bus → Prop} (b : Bus) (x : Conn) (same : P b)
    (pruned : ∀ nm, P { b with conns := b.conns.map fun y =>
      if y.id == x.id then y else { y with rules := y.rules.filter fun r => !(r.sender == some nm || r.dest == some nm) } }) :
    P (gcRules b x) := by
  unfold gcRules
  refine iteInduction (fun _ => same) fun _ => ?_
  cases x.name with
  | none => exact same
  | some nm => exact pruned nm

theorem gcRules_frame (b : Bus) (x : Conn) : gcRules b x = { b with conns := (gcRules b x).conns } :=
  gcRules_cases (P := fun r => r = { b with conns := r.conns }) b x rfl fun _ => rfl

theorem gcRules_services (b : Bus) (x : Conn) : (gcRules b x).services = b.services :=
  by rw [gcRules_frame]

theorem joinMonitors_eq (c : ConnId) (x : Conn) (rules : List MatchRule) (b : Bus) :
    joinMonitors c x rules b =
      (gcRules b { x with monitorRules := rules }).updConn c fun y => { y with rules := [], monitor := true } := rfl

theorem joinMonitors_frame (c : ConnId) (x : Conn) (rules : List MatchRule) (b : Bus) :
    joinMonitors c x rules b = { b with conns := (joinMonitors c x rules b).conns } :=
  congrArg (·.updConn c fun y => { y with rules := [], monitor := true }) (gcRules_frame b { x with monitorRules := rules })

/-- RequestName gets as far as the queue -/
structure Admitted (b : Bus) (c : ConnId) (n : Bytes) : Prop where
  valid : validateBusName n = true
  notUnique : n.head? ≠ some 0x3a
  notBus : n ≠ BUS_NAME
  allowed : canOwn (connPolicy b c) n = true
  room : nOwned b c < b.limits.maxNames

theorem acquire_cases {P : Tx × Except Err Nat → Prop} (t : Tx) (c : ConnId) (n : Bytes) (flags : Nat)
    (refused : ∀ e, P (t, .error e))
    (granted : Admitted t.bus c n → P (applyQueue t n (qAcquire (ownersOf t.bus n) c flags).1 (qAcquire (ownersOf t.bus n) c flags).2.2,
        .ok (qAcquire (ownersOf t.bus n) c flags).2.1)) : P (acquire t c n flags) := by
  unfold acquire
  refine iteInduction (fun _ => refused _) fun h1 => ?_
  refine iteInduction (fun _ => refused _) fun h2 => ?_
  refine iteInduction (fun _ => refused _) fun h3 => ?_
  refine iteInduction (fun _ => refused _) fun h4 => ?_
  refine iteInduction (fun _ => refused _) fun h5 => ?_
  exact granted ⟨by simpa using h1, by simpa using h2, by simpa using h3, by simpa using h4, by omega⟩

theorem release_cases {P : Tx × Except Err Nat → Prop} (t : Tx) (c : ConnId) (n : Bytes)
    (refused : ∀ e, P (t, .error e))
    (done : P (applyQueue t n (qRelease (ownersOf t.bus n) c).1 (qRelease (ownersOf t.bus n) c).2.2,
        .ok (qRelease (ownersOf t.bus n) c).2.1)) : P (release t c n) := by
  unfold release
  exact iteInduction (fun _ => refused _) fun _ => iteInduction (fun _ => refused _) fun _ =>
    iteInduction (fun _ => refused _) fun _ => done

theorem hello_cases {P : Tx × Option Err → Prop} (t : Tx) (c : ConnId) (m : Msg) (refused : ∀ e, P (t, some e))
    (welcome : t.bus.isActive c = false → nCompleted t.bus < t.bus.limits.maxCompleted →
      nCompletedFor t.bus (uidOf t.bus c) < t.bus.limits.maxPerUser → P (helloOk t c m, none)) : P (hello t c m) := by
  unfold hello
  refine iteInduction (fun _ => refused _) fun h1 => iteInduction (fun _ => refused _) fun h2 =>
    iteInduction (fun _ => refused _) fun h3 => welcome (by simpa using h1) (by omega) (by omega)

/-- `answered` covers the five methods that only read, Ping, and a RemoveMatch that finds no rule (its acknowledgement is queued
    before the rule is looked up); `unmodelled` the replies whose body is not modelled.  Two arguments for `P`: with a motive on
    the pair, consumers have to unify `reply ..` with `(reply .., e).1`, which unfolds `reply` first and is slow. -/
theorem runMethod_cases {P : Tx → Option Err → Prop} (t : Tx) (c : ConnId) (m : Msg) (w : Method)
    (refused : ∀ e, P t (some e))
    (answered : ∀ tys body e, P (reply t c m tys body) e)
    (greeting : w = .hello → P (hello t c m).1 (hello t c m).2)
    (requested : w = .requestName → ∀ code, P (reply (acquire t c (arg0 m) (arg1Nat m)).1 c m [tU32] [.fixed .u32 code]) none)
    (released : ∀ code, P (reply (release t c (arg0 m)).1 c m [tU32] [.fixed .u32 code]) none)
    (ruleAdded : w = .addMatch → ∀ r, nRules t.bus c < t.bus.limits.maxRules →
      P (reply { t with bus := t.bus.updRules c (· ++ [r]) } c m [] []) none)
    (ruleRemoved : ∀ r rs', removeRule (rulesOfConn t.bus c) r = some rs' →
      P ((reply t c m [] []).mapBus (·.updRules c fun _ => rs')) none)
    (monitoring : ∀ rules, P (beMonitor (reply t c m [] []) c rules) none)
    (unmodelled : ∀ t1 : Tx, t1.bus = t.bus → (t1.out = t.out ∨ t1.out = t.out ++ [.opaque c m.serial]) → P t1 none) :
    P (runMethod t c m w).1 (runMethod t c m w).2 := by
  -- with the result as one pair, and a motive `Q` on pairs, the method is computed once
  suffices h : ∀ Q : Tx × Option Err → Prop, (∀ x e, P x e → Q (x, e)) → Q (runMethod t c m w) from h (fun r => P r.1 r.2) fun _ _ h => h
  intro Q hQ
  have ite : ∀ {p : Prop} [Decidable p] {x y : Tx × Option Err}, Q x → Q y → Q (if p then x else y) :=
    fun hx hy => iteInduction (fun _ => hx) fun _ => hy
  have refused := fun e => hQ _ _ (refused e)
  have answered := fun tys body e => hQ _ _ (answered tys body e)
  cases w with
  | hello => exact hQ _ _ (greeting rfl)
  | requestName =>
    unfold runMethod; dsimp only
    have hr := acquire_cases (P := fun r => ∀ e, r.2 = .error e → r.1 = t) t c (arg0 m) (arg1Nat m) (fun _ _ _ => rfl) fun _ _ h => nomatch h
    have hk := requested rfl
    generalize acquire t c (arg0 m) (arg1Nat m) = r at hr hk ⊢
    rcases r with ⟨t1, e | code⟩
    · cases hr e rfl; exact refused e
    · exact hQ _ _ (hk code)
  | releaseName =>
    unfold runMethod; dsimp only
    have hr := release_cases (P := fun r => ∀ e, r.2 = .error e → r.1 = t) t c (arg0 m) (fun _ _ _ => rfl) fun _ h => nomatch h
    generalize release t c (arg0 m) = r at hr released ⊢
    rcases r with ⟨t1, e | code⟩
    · cases hr e rfl; exact refused e
    · exact hQ _ _ (released code)
  | nameHasOwner => exact answered ..
  | listNames => exact answered ..
  | getNameOwner =>
    unfold runMethod; dsimp only
    cases t.bus.primary? (arg0 m) <;> dsimp only
    · exact ite (answered ..) (refused _)
    · exact answered ..
  | listQueuedOwners =>
    unfold runMethod; dsimp only
    cases ownersOf t.bus (arg0 m) <;> dsimp only
    · exact ite (answered ..) (refused _)
    · exact answered ..
  | getUnixUser =>
    unfold runMethod; dsimp only
    refine ite (answered ..) ?_
    cases t.bus.primary? (arg0 m) <;> dsimp only
    · exact refused _
    · exact answered ..
  | ping => exact answered ..
  | addMatch =>
    unfold runMethod; dsimp only
    refine iteInduction (fun _ => refused _) fun hlim => ?_
    cases parseRule (arg0 m) <;> dsimp only
    · exact ite (refused _) (hQ _ _ (ruleAdded rfl _ (by omega)))
    · exact refused _
    · exact refused _
  | removeMatch =>
    unfold runMethod; dsimp only
    cases parseRule (arg0 m) with
    | ok r =>
      dsimp only
      cases hr : removeRule (rulesOfConn t.bus c) r <;> dsimp only
      · exact answered ..
      · exact hQ _ _ (ruleRemoved r _ hr)
    | tooLong => exact refused _
    | invalid => exact refused _
  | becomeMonitor =>
    unfold runMethod; dsimp only
    refine ite (refused _) ?_
    cases parseMonitorRules (monitorTexts m) <;> dsimp only
    · exact refused _
    · exact hQ _ _ (monitoring _)
  | opaqueM =>
    unfold runMethod; dsimp only
    have hf := opaque_fold_frame (captureTargets t.bus none (some c) (stampDriver t.bus c (mkReturn m [] []))) m.serial t
    generalize List.foldl _ t (captureTargets t.bus none (some c) (stampDriver t.bus c (mkReturn m [] []))) = t1 at hf ⊢
    have hp := checkPolicy_driver t1.bus (some c) (some c) (stampDriver t1.bus c (mkReturn m [] []))
    generalize checkPolicy t1.bus none (some c) (some c) (stampDriver t1.bus c (mkReturn m [] [])) = r at hp ⊢
    rcases r with ⟨p, _ | e⟩ <;> cases hp
    · exact hQ _ _ (unmodelled _ hf.1 (.inr (congrArg (· ++ [Out.opaque c m.serial]) hf.2)))
    · exact hQ _ _ (unmodelled _ ((captureError_bus ..).trans hf.1) (.inl ((captureError_out ..).trans hf.2)))

theorem driverHandle_cases {P : Tx × Option Err → Prop} (tbl : List IfaceRow) (t : Tx) (c : ConnId) (m : Msg)
    (unhandled : ∀ e, P (t, e))
    (handled : ∀ i row, findHandler tbl (m.path == some DBUS_PATH) m.iface (m.member.getD []) = .handler i row →
      P (runMethod t c m (methodOf i row.name))) : P (driverHandle tbl t c m) := by
  unfold driverHandle
  refine iteInduction (fun _ => unhandled _) fun _ => ?_
  dsimp only
  cases hf : findHandler tbl (m.path == some DBUS_PATH) m.iface (m.member.getD []) with
  | noInterface => exact unhandled _
  | noMethod => exact unhandled _
  | handler i row =>
    exact iteInduction (fun _ => unhandled _) fun _ => iteInduction (fun _ => unhandled _) fun _ =>
      iteInduction (fun _ => unhandled _) fun _ => handled i row hf

theorem toDriver_frame (tbl : List IfaceRow) (t : Tx) (c : ConnId) (m : Msg) :
    (toDriver tbl t c m).1.bus = (toDriverCore tbl { t with mon := [] } c m).1.bus ∧
    (toDriver tbl t c m).1.out = (toDriverCore tbl { t with mon := [] } c m).1.out ∧
    (toDriver tbl t c m).2 = (toDriverCore tbl { t with mon := [] } c m).2 := by
  unfold toDriver; exact ⟨rfl, rfl, rfl⟩

/-- the message as `bus_dispatch` goes on with it -/
def stamped (b : Bus) (c : ConnId) (m0 : Msg) : Msg := (strip m0).setSender (senderNameOf b c)

theorem strip_mtype (m0 : Msg) : (strip m0).mtype = m0.mtype := rfl

theorem dispatch_cases {P : Tx → Prop} (tbl : List IfaceRow) (b : Bus) (c : ConnId) (m0 : Msg)
    (unknown : b.conn? c = none → P { bus := b })
    (peer : ∀ x, b.conn? c = some x → (strip m0).dest = none → (strip m0).iface = some PEER_IFACE →
      P { bus := b, out := [.deliver c (peerFilterReply (strip m0))] })
    (monitor : ∀ x, b.conn? c = some x → ¬((strip m0).dest = none ∧ (strip m0).iface = some PEER_IFACE) → x.monitor = true →
      P (dropConn b c))
    (builtin : ∀ x, b.conn? c = some x → ¬((strip m0).dest = none ∧ (strip m0).iface = some PEER_IFACE) → x.monitor = false →
      (strip m0).dest = none → (strip m0).mtype ≠ 4 → P { bus := b, out := (builtinReply (strip m0)).map (.deliver c) })
    (driver : ∀ x, b.conn? c = some x → ¬((strip m0).dest = none ∧ (strip m0).iface = some PEER_IFACE) → x.monitor = false →
      ¬((strip m0).dest = none ∧ (strip m0).mtype ≠ 4) → (stamped b c m0).dest = some BUS_NAME →
      P (sweepMonitors (finish (toDriver tbl { bus := b } c (stamped b c m0)) c (stamped b c m0))))
    (unnamed : ∀ x, b.conn? c = some x → ¬((strip m0).dest = none ∧ (strip m0).iface = some PEER_IFACE) → x.monitor = false →
      ¬((strip m0).dest = none ∧ (strip m0).mtype ≠ 4) → (stamped b c m0).dest ≠ some BUS_NAME → x.name = none →
      P { dropConn b c with mon := (capture { bus := b } (some c) none (stamped b c m0)).mon ++ (dropConn b c).mon })
    (routed : ∀ x, b.conn? c = some x → ¬((strip m0).dest = none ∧ (strip m0).iface = some PEER_IFACE) → x.monitor = false →
      ¬((strip m0).dest = none ∧ (strip m0).mtype ≠ 4) → (stamped b c m0).dest ≠ some BUS_NAME → x.name.isSome = true →
      P (finish (route { bus := b } c (stamped b c m0)) c (stamped b c m0))) :
    P (dispatch tbl b c m0) := by
  have peerT : ((strip m0).dest.isNone && (strip m0).iface == some PEER_IFACE) = true ↔
      (strip m0).dest = none ∧ (strip m0).iface = some PEER_IFACE := by simp
  have builtinT : ((strip m0).dest.isNone && (strip m0).mtype != 4) = true ↔ (strip m0).dest = none ∧ (strip m0).mtype ≠ 4 := by simp
  unfold dispatch
  cases hx : b.conn? c with
  | none => exact unknown hx
  | some x =>
    dsimp only
    refine iteInduction (fun h => peer x hx (peerT.mp h).1 (peerT.mp h).2) fun hp => ?_
    have hp := mt peerT.mpr hp
    refine iteInduction (fun hm => monitor x hx hp hm) fun hm => ?_
    have hm : x.monitor = false := by simpa using hm
    refine iteInduction (fun h => builtin x hx hp hm (builtinT.mp h).1 (builtinT.mp h).2) fun hb => ?_
    have hb := mt builtinT.mpr hb
    refine iteInduction (fun hd => driver x hx hp hm hb (beq_iff_eq.mp hd)) fun hd => ?_
    have hd : (stamped b c m0).dest ≠ some BUS_NAME := fun e => hd (beq_iff_eq.mpr e)
    exact iteInduction (fun hn => unnamed x hx hp hm hb hd (by simpa using hn)) fun hn =>
      routed x hx hp hm hb hd (by rw [Option.isSome_iff_ne_none]; simpa using hn)

theorem dispatch_none (tbl : List IfaceRow) {b : Bus} {c : ConnId} (m0 : Msg) (h : b.conn? c = none) : dispatch tbl b c m0 = { bus := b } := by
  unfold dispatch; rw [h]

theorem dispatch_peer (tbl : List IfaceRow) {b : Bus} {c : ConnId} {x : Conn} {m0 : Msg} (hx : b.conn? c = some x)
    (hp : ((strip m0).dest.isNone && (strip m0).iface == some PEER_IFACE) = true) :
    dispatch tbl b c m0 = { bus := b, out := [Out.deliver c (peerFilterReply (strip m0))] } := by
  unfold dispatch
  simp only [hx, hp, if_true]

theorem dispatch_monitor (tbl : List IfaceRow) {b : Bus} {c : ConnId} {x : Conn} {m0 : Msg} (hx : b.conn? c = some x)
    (hm : x.monitor = true) (hnp : ((strip m0).dest.isNone && (strip m0).iface == some PEER_IFACE) = false) :
    dispatch tbl b c m0 = dropConn b c := by
  unfold dispatch
  simp only [hx, hnp, Bool.false_eq_true, if_false, hm, if_true]

theorem route_cases {P : Tx × Option Err → Prop} (t : Tx) (c : ConnId) (m : Msg)
    (ownerless : ∀ e, P (capture t (some c) none m, some e))
    (sent : ∀ a, (a = none ∨ ∃ d, m.dest = some d ∧ t.bus.primary? d = a) →
      P (dispatchMatches (capture t (some c) a m) (some c) a m)) : P (route t c m) := by
  unfold route
  cases hd : m.dest with
  | none => exact sent none (.inl rfl)
  | some d =>
    dsimp only
    cases hp : t.bus.primary? d with
    | none => exact ownerless _
    | some a => exact sent (some a) (.inr ⟨d, hd, hp⟩)

theorem route_broadcast {t : Tx} {c : ConnId} {m : Msg} (hd : m.dest = none) :
    route t c m = dispatchMatches (capture t (some c) none m) (some c) none m := by
  unfold route; rw [hd]

theorem route_no_owner {t : Tx} {c : ConnId} {m : Msg} {d : Bytes} (hd : m.dest = some d) (ha : t.bus.primary? d = none) :
    route t c m = (capture t (some c) none m, some (if m.noAutoStart then .nameHasNoOwner else .serviceUnknown)) := by
  unfold route; rw [hd]; dsimp only; rw [ha]

theorem route_owner {t : Tx} {c a : ConnId} {m : Msg} {d : Bytes} (hd : m.dest = some d) (ha : t.bus.primary? d = some a) :
    route t c m = dispatchMatches (capture t (some c) (some a) m) (some c) (some a) m := by
  unfold route; rw [hd]; dsimp only; rw [ha]

theorem made_deliver {to : ConnId} {m : Msg} (h : BusMade m) : Made (.deliver to m) := Or.inl h

theorem step_sendFromDriver (t : Tx) (to : ConnId) {m : Msg} (hm : KnownFields m) : Step c Made t (sendFromDriver t to m) :=
  (Step.delivery none (some to) fun _ => made_deliver (stampDriver_busMade t.bus to hm)).sendFromDriver t

theorem step_reply (t : Tx) (d : ConnId) (call : Msg) (tys : List Ty) (body : List Val) : Step c Made t (reply t d call tys body) :=
  step_sendFromDriver t d (known_mkReturn call tys body)
theorem step_sendError (t : Tx) (to : ConnId) (m : Msg) (e : Err) : Step c Made t (sendError t to m e) :=
  step_sendFromDriver t to (known_mkError m e)

theorem step_emitSig (n : Bytes) (t : Tx) (sg : Sig) : Step c Made t (emitSig n t sg) := by
  cases sg with
  | lost d => exact step_sendFromDriver t d (known_mkSignal _ _ _)
  | acquired d => exact step_sendFromDriver t d (known_mkSignal _ _ _)
  | changed o w =>
    have D : Delivery (Step c Made) none none (ownerChangedMsg n (connName t.bus o) (connName t.bus w)) :=
      Step.delivery none none fun _ => made_deliver ⟨sender_setSender .., known_setSender (known_mkSignal _ _ _) _⟩
    exact (D.capture ..).trans (D.dispatchMatches _)

theorem emits_applyQueue (t : Tx) (n : Bytes) (os' : List Owner) (sigs : List Sig) : Emits Made t (applyQueue t n os' sigs) :=
  -- only the `out` half of the `Step` is used: any `c` will do
  ((Step.foldl (c := 0) (emitSig n) (step_emitSig n) sigs t).out).trans (.same rfl)

theorem step_acquire (t : Tx) (n : Bytes) (flags : Nat) (h : t.bus.isActive c = true) : Step c Made t (acquire t c n flags).1 :=
  ⟨.acquire t n flags h, acquire_cases (P := fun r => Emits Made t r.1) t c n flags (fun _ => .same rfl) fun _ => emits_applyQueue ..⟩

theorem step_release (t : Tx) (n : Bytes) : Step c Made t (release t c n).1 :=
  ⟨.release t n, release_cases (P := fun r => Emits Made t r.1) t c n (fun _ => .same rfl) (emits_applyQueue ..)⟩

theorem step_removeOwner (t : Tx) (n : Bytes) : Step c Made t (removeOwner t n c) := ⟨.removeOwner t n, emits_applyQueue ..⟩

theorem step_releaseAll (t : Tx) (names : List Bytes) : Step c Made t (releaseAll t c names) :=
  Step.foldl _ (fun t n => step_removeOwner t n) names t

theorem emits_helloOk (t : Tx) (m : Msg) : Emits Made t (helloOk t c m) := by
  unfold helloOk ensureService
  exact .trans (.trans (t2 := { t with bus := activate (mint t.bus).1 c (mint t.bus).2 }) (.same rfl) (step_reply (c := c) ..).out)
    (emits_applyQueue ..)

theorem step_hello (t : Tx) (m : Msg) : Step c Made t (hello t c m).1 :=
  hello_cases (P := fun r => Step c Made t r.1) t c m (fun _ => .refl t) fun h1 h2 h3 => ⟨.helloOk t m h1 h2 h3, emits_helloOk t m⟩

theorem step_beMonitor (t : Tx) (rules : List MatchRule) : Step c Made t (beMonitor t c rules) := by
  unfold beMonitor
  cases t.bus.conn? c with
  | none => exact .refl t
  | some x =>
    exact (Step.state (.installMonitor ..)).trans ((step_releaseAll _ x.owned).trans (Step.state (.joinMonitors ..)))

theorem step_dispatchMatches (t : Tx) (s a : Option ConnId) (m : Msg) : Step c (OutOK (· = m)) t (dispatchMatches t s a m).1 :=
  (Step.delivery s a fun _ => Or.inr rfl).dispatchMatches t

theorem step_noReplyTo (d : ConnId) (t : Tx) (p : Pending) : Step c Made t (noReplyTo d t p) :=
  iteInduction (fun _ => step_sendError ..) fun _ => .refl t

theorem step_dropPending (t : Tx) (d : ConnId) : Step c Made t (dropPending t d) :=
  (Step.state (.forget t.bus d)).trans (Step.foldl _ (step_noReplyTo d) _ _)

theorem step_sweepMonitors (t : Tx) : Step c Made t (sweepMonitors t) :=
  Step.foldl (fun (t : Tx) (x : Conn) => dropPending t x.id) (fun t x => step_dropPending t x.id) _ t

theorem step_finish {fw : Msg → Prop} {t0 : Tx} {d : ConnId} (r : Tx × Option Err) (m : Msg) (h : Step c (OutOK fw) t0 r.1) :
    Step c (OutOK fw) t0 (finish r d m) := by
  obtain ⟨t, _ | e⟩ := r
  · exact h
  · exact h.trans (step_sendError t d m e).made

theorem step_route (t : Tx) (m : Msg) : Step c (OutOK (· = m)) t (route t c m).1 :=
  route_cases (P := fun r => Step c (OutOK (· = m)) t r.1) t c m (fun _ => .quiet (capture_bus ..) (capture_out ..))
    fun _ _ => (Step.quiet (capture_bus ..) (capture_out ..)).trans (step_dispatchMatches ..)

theorem noReplyTo_bus (c : ConnId) (t : Tx) (p : Pending) : (noReplyTo c t p).bus = t.bus :=
  iteInduction (motive := fun r : Tx => r.bus = t.bus) (fun _ => sendFromDriver_bus ..) fun _ => rfl

theorem dropPending_bus (t : Tx) (c : ConnId) :
    (dropPending t c).bus = { t.bus with pending := t.bus.pending.filter fun p => !involves c p } :=
  foldl_same Tx.bus (noReplyTo_bus c) _ _

theorem step_disconnectTx (b : Bus) (x : Conn) (hx : b.conn? c = some x) : Step c Made { bus := b } (disconnectTx b c x) := by
  unfold disconnectTx
  exact (Step.state (t := { bus := b }) (.trans (.gcRules b x hx) (.clearRules _))).trans
    ((step_releaseAll _ _).trans ((Step.state (.removeConn _)).trans (step_dropPending ..)))

theorem disconnectTx_bus (b : Bus) (c : ConnId) (x : Conn) :
    (disconnectTx b c x).bus =
      { removeConn c (releaseAll { bus := clearRules (gcRules b x) c } c x.owned.reverse).bus with
        pending := (releaseAll { bus := clearRules (gcRules b x) c } c x.owned.reverse).bus.pending.filter fun p => !involves c p } := by
  unfold disconnectTx
  rw [dropPending_bus]
  rfl

theorem disconnect_cases {P : Tx → Prop} (b : Bus) (c : ConnId) (absent : b.conn? c = none → P { bus := b })
    (present : ∀ x, b.conn? c = some x →
      P { bus := (disconnectTx b c x).bus, out := (disconnectTx b c x).out.filter (notTo c),
          mon := (disconnectTx b c x).mon.filter (notTo c) }) : P (disconnect b c) := by
  unfold disconnect
  cases hx : b.conn? c with
  | none => exact absent hx
  | some x => exact present x hx

theorem dropPending_core (t : Tx) (d : ConnId) : core (dropPending t d).bus = core t.bus := by
  rw [dropPending_bus]; rfl

theorem sweepMonitors_core (t : Tx) : core (sweepMonitors t).bus = core t.bus :=
  foldl_same (fun t : Tx => core t.bus) (fun t (x : Conn) => dropPending_core t x.id) _ t

theorem finish_bus (r : Tx × Option Err) (c : ConnId) (m : Msg) : (finish r c m).bus = r.1.bus := by
  obtain ⟨t, _ | e⟩ := r
  · rfl
  · exact sendFromDriver_bus ..

theorem finish_core (r : Tx × Option Err) (c : ConnId) (m : Msg) : core (finish r c m).bus = core r.1.bus :=
  congrArg core (finish_bus r c m)

theorem step_invalid_bus (tbl : List IfaceRow) (b : Bus) (c : ConnId) : (step tbl b (.invalid c)).bus = (disconnect b c).bus :=
  iteInduction (motive := fun T : Tx => T.bus = (disconnect b c).bus)
    (fun h => by rw [disconnect, Option.isNone_iff_eq_none.mp h]) fun _ => rfl

theorem disconnect_gone (b : Bus) (c : ConnId) : ∀ y ∈ (disconnect b c).bus.conns, y.id ≠ c :=
  disconnect_cases (P := fun T => ∀ y ∈ T.bus.conns, y.id ≠ c) b c
    (fun hx y hy hyc => conn?_eq_none.mp hx (List.mem_map.mpr ⟨y, hy, hyc⟩)) fun x _ y hy => by
      rw [disconnectTx_bus] at hy
      exact bne_iff_ne.mp (List.mem_filter.mp hy).2

theorem disconnect_outputs (b : Bus) (c : ConnId) : ∀ o ∈ (disconnect b c).out, Made o :=
  disconnect_cases (P := fun T => ∀ o ∈ T.out, Made o) b c (fun _ _ ho => nomatch ho)
    fun x hx o ho => (step_disconnectTx b x hx).out.all rfl o (List.mem_filter.mp ho).1

theorem dropConn_outputs (b : Bus) (c : ConnId) : ∀ o ∈ (dropConn b c).out, Made o := by
  unfold dropConn
  intro o ho
  simp only [List.mem_append, List.mem_singleton] at ho
  rcases ho with ho | rfl
  · exact disconnect_outputs b c o ho
  · trivial

theorem step_connect_cases {P : Tx → Prop} (tbl : List IfaceRow) (b : Bus) (c uid : Nat) (gids : List Nat) (canFd : Bool)
    (known : (b.conn? c).isSome = true → P { bus := b })
    (new : b.conn? c = none → P { bus := { b with conns := b.conns ++ [{ id := c, uid := uid, gids := gids, canFd := canFd }] } }) :
    P (step tbl b (.connect c uid gids canFd)) :=
  iteInduction known fun h => new (by simpa using h)

theorem expired_spec (ps : List Pending) (t : Tx) :
    (ps.foldl (fun t p => sendError t p.caller (fakeCall p.serial) .noReply) t).bus = t.bus ∧
    ∃ l, (ps.foldl (fun t p => sendError t p.caller (fakeCall p.serial) .noReply) t).out = t.out ++ l ∧
      l.Sublist (ps.map fun p => .deliver p.caller (stampDriver t.bus p.caller (mkError (fakeCall p.serial) .noReply))) :=
  fold_sublist _ (·.bus = t.bus) _ (fun t' p ht =>
    ⟨(sendFromDriver_bus ..).trans ht, ht ▸ (sendFromDriver_spec t' p.caller (mkError (fakeCall p.serial) .noReply)).2⟩) ps t rfl

theorem step_timeout_bus (tbl : List IfaceRow) (b : Bus) : (step tbl b .timeout).bus = { b with pending := [] } :=
  (expired_spec ..).1

theorem step_expire_bus (tbl : List IfaceRow) (b : Bus) (due : List Pending) :
    (step tbl b (.expire due)).bus = { b with pending := b.pending.filter fun p => !due.contains p } :=
  (expired_spec ..).1

def reloadConn (b : Bus) (p : Policy) (x : Conn) : Conn :=
  if x.name.isSome then { x with policy := p.clientPolicy b.limits.maxFdsDefault x.uid x.gids false } else x

theorem reloadPolicy_eq (b : Bus) (p : Policy) : reloadPolicy b p = { b with policy := p, conns := b.conns.map (reloadConn b p) } := rfl

theorem reloadConn_frame (b : Bus) (p : Policy) (x : Conn) : reloadConn b p x = { x with policy := (reloadConn b p x).policy } := by
  unfold reloadConn; split <;> rfl

theorem reloadConn_policy (b : Bus) (p : Policy) {x : Conn} (h : x.name.isSome = true) :
    (reloadConn b p x).policy = p.clientPolicy b.limits.maxFdsDefault x.uid x.gids false := by
  unfold reloadConn; rw [if_pos h]

theorem conn?_reloadPolicy (b : Bus) (p : Policy) (c : ConnId) : (reloadPolicy b p).conn? c = (b.conn? c).map (reloadConn b p) :=
  find?_map_id b.conns (reloadConn b p) (fun x => by rw [reloadConn_frame]) c

end

end Dbus.Proofs.Bus
