import Dbus.Model.Bus.Raw
import Dbus.Proofs.Bus.Assoc
import Dbus.Proofs.Bus.Generic
import Dbus.Props.C11
/-
  The bus behind its loaders.  What the socket model does to the core is `run` on the events the loaders let through
  (`steps_fst`), and every message among those events has passed `loadOne` (`NetLoaded`, kept by every operation).
-/
namespace Dbus.Proofs.Bus
open Dbus.Model Dbus.Model.Bus Dbus.Proofs.Loader

theorem steps_fst (tbl : List IfaceRow) (b : Bus) (evs : List Ev) : (steps tbl b evs).1 = (run tbl b evs).1 := by
  rw [run_fst]
  induction evs generalizing b with
  | nil => rfl
  | cons e es ih => exact ih _

/-- the message passed the loader's validation -/
def Loaded (m : Msg) : Prop := ∃ mx fds bs n, loadOne true mx fds bs = .ok m n

def AllLoaded (l : Loader) : Prop := ∀ m ∈ l.msgs, Loaded m

theorem drain_loaded (mx g : Nat) (l : Loader) (h : AllLoaded l) : AllLoaded (drain mx g l) := by
  refine drain_induction mx (fun l m n hl h x hx => ?_) (fun _ h => h) g l h
  rcases List.mem_append.mp hx with hx | hx
  · exact h x hx
  · rw [List.mem_singleton.mp hx]; exact ⟨mx, l.fds, l.buf, n, hl⟩

theorem feed_loaded (mx : Nat) (l : Loader) (chunk : Bytes) (h : AllLoaded l) : AllLoaded (l.feed mx chunk) := by
  unfold Loader.feed
  split
  · exact h
  · exact drain_loaded mx _ _ h

theorem feed_msgs_prefix (mx : Nat) (l : Loader) (chunk : Bytes) : ∃ more, (l.feed mx chunk).msgs = l.msgs ++ more := by
  unfold Loader.feed
  split
  · exact ⟨[], by simp⟩
  · exact Dbus.Props.C11.messages_monotone mx _ _

def NetLoaded (n : Net) : Prop := ∀ p ∈ n.loaders, AllLoaded p.2

theorem loader_loaded {n : Net} (h : NetLoaded n) (c : ConnId) : AllLoaded (n.loader c) :=
  getD_lookup_cases n.loaders c {} (fun _ hm => nomatch hm) fun _ hl => h _ hl

theorem setLoader_loaded {n : Net} (h : NetLoaded n) (c : ConnId) (l : Loader) (hl : AllLoaded l) :
    NetLoaded (n.setLoader c l) := by
  intro p hp
  simp only [Net.setLoader, List.mem_cons] at hp
  rcases hp with rfl | hp
  · exact hl
  · exact h p (List.mem_filter.mp hp).1

theorem netStep_loaded (tbl : List IfaceRow) (n : Net) (op : NetOp) (h : NetLoaded n) : NetLoaded (netStep tbl n op).1 := by
  simp only [netStep]
  show NetLoaded (op.loaders n)
  cases op with
  | connect c _ _ _ => exact setLoader_loaded h c {} (by intro m hm; simp at hm)
  | write c bytes => exact setLoader_loaded h c _ (feed_loaded _ _ _ (loader_loaded h c))
  | close c => exact h
  | timeout => exact h

theorem events_loaded (n : Net) (op : NetOp) (h : NetLoaded n) :
    ∀ ev ∈ op.events n, ∀ c m, ev = .msg c m → Loaded m := by
  intro ev hev c m hcm
  subst hcm
  cases op with
  | write c' bytes =>
    simp only [NetOp.events, readEvents, List.mem_append, List.mem_map] at hev
    rcases hev with ⟨x, hx, hxe⟩ | hev
    · cases hxe
      exact feed_loaded _ _ _ (loader_loaded h c) m (List.mem_of_mem_drop hx)
    · split at hev <;> simp at hev
  | _ => simp [NetOp.events] at hev

theorem netEvents_loaded (tbl : List IfaceRow) (n : Net) (ops : List NetOp) (h : NetLoaded n) :
    ∀ ev ∈ netEvents tbl n ops, ∀ c m, ev = .msg c m → Loaded m := by
  induction ops generalizing n with
  | nil => intro ev hev; simp [netEvents] at hev
  | cons op ops ih =>
    intro ev hev c m hcm
    simp only [netEvents, List.mem_append] at hev
    rcases hev with hev | hev
    · exact events_loaded n op h ev hev c m hcm
    · exact ih _ (netStep_loaded tbl n op h) ev hev c m hcm

end Dbus.Proofs.Bus
