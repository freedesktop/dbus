import Dbus.Model.Bus.Fds
import Dbus.Proofs.Bus.Assoc
import Dbus.Proofs.Chunking
import Dbus.Proofs.Bus.Names
/-
  Nothing is lost: what the bus has received is, as a multiset, what it has closed plus what is pending (`Conserved`, argued by
  counting occurrences).  What is pending belongs to connected clients, within the per-connection limit (`Held`); the loaders'
  descriptor counts follow the ledger's token lists (`Sync`).
-/
namespace Dbus.Proofs.Bus
open Dbus.Model Dbus.Model.Bus Dbus.Proofs.Loader

theorem assign_conserve : ∀ (avail : List Fd) (ms : List Msg),
    (assign avail ms).1.flatMap (·.2) ++ (assign avail ms).2 = avail
  | avail, [] => by simp [assign]
  | avail, m :: ms => by
    simp only [assign, List.flatMap_cons, List.append_assoc]
    rw [assign_conserve (avail.drop m.nFds) ms]
    exact List.take_append_drop _ _

theorem assign_rest_length_le : ∀ (avail : List Fd) (ms : List Msg), (assign avail ms).2.length ≤ avail.length
  | avail, [] => Nat.le_refl _
  | avail, m :: ms => by
    have := assign_rest_length_le (avail.drop m.nFds) ms
    simp only [List.length_drop] at this
    exact Nat.le_trans this (Nat.sub_le _ _)

theorem assign_exact : ∀ (avail : List Fd) (ms : List Msg), (ms.map (·.nFds)).sum ≤ avail.length →
    (∀ p ∈ (assign avail ms).1, p.2.length = p.1.nFds) ∧ (assign avail ms).2.length = avail.length - (ms.map (·.nFds)).sum
  | _, [], _ => ⟨fun _ hp => (nomatch hp), rfl⟩
  | avail, m :: ms, h => by
    obtain ⟨h1, h2⟩ := assign_exact (avail.drop m.nFds) ms (List.length_drop ▸ Nat.le_sub_of_add_le' h)
    refine ⟨fun p hp => ?_, h2.trans (by rw [List.length_drop, Nat.sub_sub]; rfl)⟩
    rcases List.mem_cons.mp hp with rfl | hp
    · exact List.length_take.trans (Nat.min_eq_left (Nat.le_trans (Nat.le_add_right ..) h))
    · exact h1 p hp

def Keys (n : FdNet) : Prop := (n.pending.map (·.1)).Nodup

def Conserved (R : List Fd) (n : FdNet) : Prop := R.Perm (n.closed ++ n.allPending)

theorem conserved_iff {R : List Fd} {n : FdNet} :
    Conserved R n ↔ ∀ a, R.count a = n.closed.count a + n.allPending.count a := by
  rw [Conserved, List.perm_iff_count]
  simp only [List.count_append]

theorem count_split (a : Fd) (c : ConnId) (l : List (ConnId × List Fd)) (hk : (l.map (·.1)).Nodup) :
    (l.flatMap (·.2)).count a = ((l.lookup c).getD []).count a + ((l.filter (fun p => p.1 != c)).flatMap (·.2)).count a := by
  induction l with
  | nil => rfl
  | cons kv l ih =>
    obtain ⟨k, v⟩ := kv
    have hk := List.nodup_cons.mp hk
    rw [List.flatMap_cons, List.count_append, List.lookup_cons, List.filter_cons]
    by_cases hc : c = k
    · -- the entry of `c`; no other entry is
      subst hc
      have hno : ∀ p ∈ l, (p.1 != c) = true := fun p hp => bne_iff_ne.mpr fun e => hk.1 (List.mem_map.mpr ⟨p, hp, e⟩)
      rw [beq_self_eq_true, if_neg (by simp), List.filter_eq_self.mpr hno]; rfl
    · rw [beq_false_of_ne hc, if_pos (bne_iff_ne.mpr (Ne.symm hc)), List.flatMap_cons, List.count_append, ih hk.2]
      exact Nat.add_left_comm ..

theorem keys_setPending {n : FdNet} (c : ConnId) (fds : List Fd) (h : Keys n) : Keys (n.setPending c fds) := by
  refine List.nodup_cons.mpr ⟨fun hm => ?_, h.sublist (List.filter_sublist.map _)⟩
  obtain ⟨p, hp, hpc⟩ := List.mem_map.mp hm
  simpa [hpc] using (List.mem_filter.mp hp).2

theorem keys_sweep {n : FdNet} (h : Keys n) : Keys n.sweep :=
  h.sublist (List.filter_sublist.map _)

theorem conserved_sweep {R : List Fd} {n : FdNet} (h : Conserved R n) : Conserved R n.sweep := by
  rw [conserved_iff] at h ⊢
  intro a
  -- the lists of the connections that have gone move from `pending` to `closed`: the count splits by the filter and its complement
  have hp := ((List.filter_append_perm (fun p : ConnId × List Fd => (n.net.bus.conn? p.1).isSome) n.pending).flatMap_right
    (·.2)).count_eq a
  have hfun : (fun p : ConnId × List Fd => (n.net.bus.conn? p.1).isNone) = (fun p => !(n.net.bus.conn? p.1).isSome) := by
    funext p; cases n.net.bus.conn? p.1 <;> rfl
  simp only [List.flatMap_append, List.count_append] at hp
  simp only [FdNet.sweep, FdNet.allPending, List.count_append, hfun, h a]
  omega

theorem count_setPending {n : FdNet} (c : ConnId) (fds : List Fd) (hk : Keys n) (a : Fd) :
    (n.pendingOf c).count a + (n.setPending c fds).allPending.count a = fds.count a + n.allPending.count a := by
  have := count_split a c n.pending hk
  simp only [FdNet.allPending, FdNet.setPending, FdNet.pendingOf, List.flatMap_cons, List.count_append] at this ⊢
  omega

def _root_.Dbus.Model.Bus.FdOp.fds : FdOp → List Fd
  | .write _ _ fds => fds
  | _ => []

theorem received_cons (op : FdOp) (ops : List FdOp) : received (op :: ops) = op.fds ++ received ops := by
  cases op <;> rfl

theorem conserved_close_more {R : List Fd} {n : FdNet} (fds : List Fd) (h : Conserved R n) :
    Conserved (R ++ fds) { n with closed := n.closed ++ fds } := by
  rw [conserved_iff] at h ⊢
  intro a
  show _ = _ + n.allPending.count a
  simp only [List.count_append, h a]
  omega

theorem fdApply_conserved (tbl : List IfaceRow) {R : List Fd} {n : FdNet} (c : ConnId) (l' : Loader) (new : List Msg)
    (corrupt : Bool) (fds : List Fd) (h : Conserved R n) (hk : Keys n) :
    Conserved (R ++ fds) (fdApply tbl n c l' new corrupt fds).1 ∧ Keys (fdApply tbl n c l' new corrupt fds).1 := by
  refine ⟨conserved_sweep ?_, keys_sweep (keys_setPending c _ hk)⟩
  rw [conserved_iff] at h ⊢
  intro a
  -- what the messages took and what is left is what was pending for `c` plus what arrived
  have hcons := congrArg (List.count a) (assign_conserve (n.pendingOf c ++ fds) new)
  have hsp := count_setPending c (assign (n.pendingOf c ++ fds) new).2 hk a
  simp only [List.count_append] at hcons
  simp only [FdNet.setPending, FdNet.allPending, List.flatMap_cons, List.count_append] at hsp ⊢
  have := h a
  simp only [FdNet.allPending] at this
  omega

theorem fdStep_cases {P : List Fd → FdNet → Prop} (tbl : List IfaceRow) (n : FdNet)
    (stay : P [] n)
    (unread : ∀ fds, P fds { n with closed := n.closed ++ fds })
    (moved : ∀ b', P [] ({ n with net := { n.net with bus := b' } } : FdNet).sweep)
    (overflow : ∀ b' fds, P fds ({ n with net := { n.net with bus := b' }, closed := n.closed ++ fds } : FdNet).sweep)
    (connect : ∀ c b', n.net.bus.conn? c = none →
      P [] ({ n with net := ({ n.net with bus := b' } : Net).setLoader c {} } : FdNet).sweep)
    (read : ∀ c bytes fds, fds.length ≤ n.maxMsgFds - (n.pendingOf c).length → P fds (fdWrite tbl n c bytes fds).1)
    (plain : ∀ c bytes fds, P fds (fdWrite tbl { n with closed := n.closed ++ fds } c bytes []).1) :
    ∀ op : FdOp, P op.fds (fdStep tbl n op).1
  -- `show`, not `unfold`: that leaves the `match` on the operation with every branch's `have`s; the bus of a branch is left as `_`
  | .pendingTimeout => moved _
  | .close _ => moved _
  | .timeout => moved _
  | .connect c uid gids canFd => by
    show P [] (if (n.net.bus.conn? c).isSome then _ else _ : FdNet × List FdTx).1
    cases hc : n.net.bus.conn? c
    · exact connect c _ hc
    · exact stay
  | .write c bytes fds => by
    show P fds (match n.net.bus.conn? c with | none => _ | some x => _ : FdNet × List FdTx).1
    cases n.net.bus.conn? c with
    | none => exact unread fds
    | some x =>
      show P fds (if x.canFd && decide (fds.length > n.maxMsgFds - (n.pendingOf c).length) then _ else
        if x.canFd then _ else _ : FdNet × List FdTx).1
      cases hcan : x.canFd
      · exact plain c bytes fds
      · by_cases hroom : fds.length > n.maxMsgFds - (n.pendingOf c).length
        · simp only [Bool.true_and, decide_eq_true hroom, if_true]; exact overflow _ fds
        · simp only [Bool.true_and, decide_eq_false hroom, Bool.false_eq_true, if_false, if_true]
          exact read c bytes fds (Nat.le_of_not_gt hroom)

theorem fdStep_conserved (tbl : List IfaceRow) {R : List Fd} {n : FdNet} (op : FdOp) (h : Conserved R n) (hk : Keys n) :
    Conserved (R ++ op.fds) (fdStep tbl n op).1 ∧ Keys (fdStep tbl n op).1 := by
  have h0 : Conserved (R ++ []) n := by rwa [List.append_nil]
  -- `Conserved` and `Keys` look at `closed` and `pending` only: a change of the bus or the loaders is invisible to them
  exact fdStep_cases (P := fun fds n' => Conserved (R ++ fds) n' ∧ Keys n') tbl n (stay := ⟨h0, hk⟩)
    (unread := fun fds => ⟨conserved_close_more fds h, hk⟩)
    (moved := fun b' => ⟨conserved_sweep (n := { n with net := { n.net with bus := b' } }) h0, keys_sweep hk⟩)
    (overflow := fun b' fds => ⟨conserved_sweep (n := { n with net := { n.net with bus := b' }, closed := n.closed ++ fds })
      (conserved_close_more fds h), keys_sweep hk⟩)
    (connect := fun c b' _ => ⟨conserved_sweep (n := { n with net := ({ n.net with bus := b' } : Net).setLoader c {} }) h0,
      keys_sweep hk⟩)
    (read := fun c bytes fds _ => fdApply_conserved tbl c _ _ _ fds h hk)
    (plain := fun c bytes fds => List.append_nil (R ++ fds) ▸
      fdApply_conserved tbl c _ _ _ [] (conserved_close_more fds h) hk) op

theorem fdRun_induction {P : List Fd → FdNet → Prop} (tbl : List IfaceRow)
    (hstep : ∀ R n op, P R n → P (R ++ op.fds) (fdStep tbl n op).1) :
    ∀ (ops : List FdOp) {R : List Fd} {n : FdNet}, P R n → P (R ++ received ops) (fdRun tbl n ops)
  | [], R, n, h => by rwa [received, List.append_nil]
  | op :: ops, R, n, h => by
    rw [received_cons, ← List.append_assoc]
    exact fdRun_induction tbl hstep ops (hstep R n op h)

theorem fdRun_conserved (tbl : List IfaceRow) : ∀ (ops : List FdOp) {R : List Fd} {n : FdNet}, Conserved R n → Keys n →
    Conserved (R ++ received ops) (fdRun tbl n ops) ∧ Keys (fdRun tbl n ops) :=
  fun ops _ _ h hk => fdRun_induction (P := fun R n => Conserved R n ∧ Keys n) tbl
    (fun _ _ op h => fdStep_conserved tbl op h.1 h.2) ops ⟨h, hk⟩

def Held (n : FdNet) : Prop := ∀ p ∈ n.pending, (n.net.bus.conn? p.1).isSome ∧ p.2.length ≤ n.maxMsgFds

theorem held_sweep {n : FdNet} (h : ∀ p ∈ n.pending, p.2.length ≤ n.maxMsgFds) : Held n.sweep := by
  intro p hp
  simp only [FdNet.sweep, List.mem_filter] at hp
  exact ⟨hp.2, h p hp.1⟩

theorem fdApply_held (tbl : List IfaceRow) {n : FdNet} (c : ConnId) (l' : Loader) (new : List Msg) (corrupt : Bool)
    (fds : List Fd) (h : Held n) (hroom : (n.pendingOf c).length + fds.length ≤ n.maxMsgFds) :
    Held (fdApply tbl n c l' new corrupt fds).1 := by
  refine held_sweep fun p hp => ?_
  simp only [FdNet.setPending, List.mem_cons, List.mem_filter] at hp
  rcases hp with rfl | ⟨hp, _⟩
  · have := assign_rest_length_le (n.pendingOf c ++ fds) new
    simp only [List.length_append] at this
    exact Nat.le_trans this hroom
  · exact (h p hp).2

theorem pendingOf_le {n : FdNet} (h : Held n) (c : ConnId) : (n.pendingOf c).length ≤ n.maxMsgFds :=
  getD_lookup_cases (P := (·.length ≤ n.maxMsgFds)) n.pending c [] (Nat.zero_le _) fun _ hv => (h _ hv).2

theorem fdStep_held (tbl : List IfaceRow) {n : FdNet} (op : FdOp) (h : Held n) :
    Held (fdStep tbl n op).1 := by
  have hb : ∀ p ∈ n.pending, p.2.length ≤ n.maxMsgFds := fun p hp => (h p hp).2
  refine fdStep_cases (P := fun _ n' => Held n') tbl n (stay := h) (unread := fun _ => h) (moved := fun _ => held_sweep hb)
    (overflow := fun _ _ => held_sweep hb) (connect := fun _ _ _ => held_sweep hb)
    (read := fun c bytes fds hroom => ?_) (plain := fun c bytes fds => ?_) op
  · have := pendingOf_le h c
    exact fdApply_held tbl c _ _ _ fds h (by omega)
  · exact fdApply_held tbl (n := { n with closed := n.closed ++ fds }) c _ _ _ [] h (pendingOf_le h c)

theorem fdStep_maxMsgFds (tbl : List IfaceRow) (n : FdNet) (op : FdOp) : (fdStep tbl n op).1.maxMsgFds = n.maxMsgFds :=
  fdStep_cases (P := fun _ n' => n'.maxMsgFds = n.maxMsgFds) tbl n (stay := rfl) (unread := fun _ => rfl) (moved := fun _ => rfl)
    (overflow := fun _ _ => rfl) (connect := fun _ _ _ => rfl) (read := fun _ _ _ _ => rfl) (plain := fun _ _ _ => rfl) op

theorem loadOne_ok_fds {mx fds : Nat} {bs : Bytes} {m : Msg} {k : Nat} (h : loadOne true mx fds bs = .ok m k) :
    m.nFds ≤ fds :=
  (Dbus.Proofs.Message.loadOne_sound h).2.2.fds_ok

theorem drain_count (mx g : Nat) (l : Loader) (old k : Nat) (hlen : old ≤ l.msgs.length)
    (h : ((l.msgs.drop old).map (·.nFds)).sum + l.fds = k) :
    (((drain mx g l).msgs.drop old).map (·.nFds)).sum + (drain mx g l).fds = k := by
  refine (drain_induction mx (P := fun l => old ≤ l.msgs.length ∧ ((l.msgs.drop old).map (·.nFds)).sum + l.fds = k)
    (fun l m n hl ⟨hlen, h⟩ => ?_) (fun _ h => h) g l ⟨hlen, h⟩).2
  refine ⟨Nat.le_trans hlen (List.length_append ▸ Nat.le_add_right ..), ?_⟩
  show (((l.msgs ++ [m]).drop old).map (·.nFds)).sum + (l.fds - m.nFds) = k
  rw [List.drop_append_of_le_length hlen, List.map_append, List.sum_append_nat, Nat.add_assoc]
  show _ + (m.nFds + 0 + (l.fds - m.nFds)) = k
  rw [Nat.add_zero, Nat.add_sub_of_le (loadOne_ok_fds hl), h]

theorem feed_count (mx : Nat) (l : Loader) (chunk : Bytes) :
    (((l.feed mx chunk).msgs.drop l.msgs.length).map (·.nFds)).sum + (l.feed mx chunk).fds = l.fds := by
  unfold Loader.feed
  split
  · simp
  · exact drain_count mx _ { l with buf := l.buf ++ chunk } l.msgs.length l.fds (Nat.le_refl _) (by simp)

theorem loader_setLoader (n : Net) (c c' : ConnId) (l : Loader) :
    (n.setLoader c l).loader c' = if c' = c then l else n.loader c' :=
  getD_lookup_set n.loaders c c' l {}

theorem pendingOf_setPending (n : FdNet) (c c' : ConnId) (v : List Fd) :
    (n.setPending c v).pendingOf c' = if c' = c then v else n.pendingOf c' :=
  getD_lookup_set n.pending c c' v []

def Sync (n : FdNet) : Prop := ∀ c, (n.net.loader c).fds = (n.pendingOf c).length

theorem sync_sweep {n : FdNet} (h : Sync n) : Sync n.sweep := by
  intro c
  show (((n.net.loaders.filter _).lookup c).getD {}).fds = (((n.pending.filter _).lookup c).getD []).length
  rw [getD_lookup_filter (fun k => (n.net.bus.conn? k).isSome), getD_lookup_filter (fun k => (n.net.bus.conn? k).isSome)]
  split
  · exact h c
  · rfl

theorem fdWrite_sync (tbl : List IfaceRow) {n : FdNet} (c : ConnId) (bytes : Bytes) (fds : List Fd) (h : Sync n) :
    Sync (fdWrite tbl n c bytes fds).1 ∧
    ∀ p ∈ (assign (n.pendingOf c ++ fds)
        ((Loader.feed n.net.maxMsg { n.net.loader c with fds := (n.net.loader c).fds + fds.length } bytes).msgs.drop
          (n.net.loader c).msgs.length)).1, p.2.length = p.1.nFds := by
  have hf : _ + _ = (n.net.loader c).fds + fds.length :=
    feed_count n.net.maxMsg { n.net.loader c with fds := (n.net.loader c).fds + fds.length } bytes
  have hlen : (n.pendingOf c ++ fds).length = (n.net.loader c).fds + fds.length :=
    List.length_append.trans (congrArg (· + fds.length) (h c).symm)
  obtain ⟨hex, hrest⟩ := assign_exact (n.pendingOf c ++ fds) _ (Nat.le.intro (hf.trans hlen.symm))
  -- what the loader counts after the write is what is left over
  have hleft := hrest.trans (Nat.sub_eq_of_eq_add' (hlen.trans hf.symm))
  refine ⟨sync_sweep fun c' => ?_, hex⟩
  dsimp only
  rw [pendingOf_setPending]
  show (Net.loader (Net.setLoader _ c _) c').fds = _
  rw [loader_setLoader]
  split
  · exact hleft.symm
  · exact h c'

theorem fdStep_sync (tbl : List IfaceRow) {n : FdNet} (op : FdOp) (hs : Sync n) (hh : Held n) : Sync (fdStep tbl n op).1 := by
  refine fdStep_cases (P := fun _ n' => Sync n') tbl n (stay := hs) (unread := fun _ => hs) (moved := fun _ => sync_sweep hs)
    (overflow := fun _ _ => sync_sweep hs) (connect := fun c b' hnc => sync_sweep fun c' => ?_)
    (read := fun c bytes fds _ => (fdWrite_sync tbl c bytes fds hs).1)
    (plain := fun c bytes fds => (fdWrite_sync tbl (n := { n with closed := n.closed ++ fds }) c bytes [] hs).1) op
  -- a new connection: its fresh loader counts nothing, and nothing is pending for an absent connection
  show (Net.loader (Net.setLoader _ c _) c').fds = (n.pendingOf c').length
  rw [loader_setLoader]
  split
  · rename_i hcc
    subst hcc
    have : n.pendingOf c' = [] :=
      getD_lookup_cases (P := (· = [])) n.pending c' [] rfl fun _ hv => absurd (hh _ hv).1 (by simp [hnc])
    rw [this]; rfl
  · exact hs c'

structure FdInv (R : List Fd) (n : FdNet) : Prop where
  conserved : Conserved R n
  keys : Keys n
  held : Held n
  sync : Sync n

theorem fdInv_init (mx : Nat) (net : Net) (h : net.loaders = []) : FdInv [] { net := net, maxMsgFds := mx } :=
  ⟨by simp [Conserved, FdNet.allPending], by simp [Keys], (by intro p hp; cases hp),
   (by intro c; simp [Net.loader, FdNet.pendingOf, h])⟩

theorem fdInv_step (tbl : List IfaceRow) {R : List Fd} {n : FdNet} (op : FdOp) (h : FdInv R n) :
    FdInv (R ++ op.fds) (fdStep tbl n op).1 :=
  ⟨(fdStep_conserved tbl op h.conserved h.keys).1, (fdStep_conserved tbl op h.conserved h.keys).2,
   fdStep_held tbl op h.held, fdStep_sync tbl op h.sync h.held⟩

theorem fdInv_run (tbl : List IfaceRow) : ∀ (ops : List FdOp) {R : List Fd} {n : FdNet}, FdInv R n →
    FdInv (R ++ received ops) (fdRun tbl n ops) :=
  fdRun_induction tbl fun _ _ op h => fdInv_step tbl op h

theorem fdRun_maxMsgFds (tbl : List IfaceRow) (ops : List FdOp) (n : FdNet) : (fdRun tbl n ops).maxMsgFds = n.maxMsgFds :=
  fdRun_induction (P := fun _ n' => n'.maxMsgFds = n.maxMsgFds) (R := []) tbl
    (fun _ n' op h => (fdStep_maxMsgFds tbl n' op).trans h) ops rfl

theorem held_run (tbl : List IfaceRow) (ops : List FdOp) {R : List Fd} {n : FdNet} (h : FdInv R n) :
    ∀ q ∈ (fdRun tbl n ops).pending, ((fdRun tbl n ops).net.bus.conn? q.1).isSome ∧ q.2.length ≤ n.maxMsgFds :=
  fun q hq => fdRun_maxMsgFds tbl ops n ▸ (fdInv_run tbl ops h).held q hq

theorem names_dropAll (tbl : List IfaceRow) : ∀ (cs : List ConnId) (b : Bus),
    (names (dropAll tbl b cs).1).map Prod.fst = ((names b).map Prod.fst).filter (fun d => !cs.contains d)
  | [], b => (List.filter_eq_self.mpr fun _ _ => rfl).symm
  | c :: cs, b => by
    rw [dropAll, names_dropAll tbl cs, names_step_invalid]
    exact filter_not_contains_cons id c cs _

theorem dropAll_gone (tbl : List IfaceRow) (b : Bus) {cs : List ConnId} {c : ConnId} (h : c ∈ cs) :
    (dropAll tbl b cs).1.conn? c = none :=
  conn?_eq_none.mpr (by rw [← ids_names, names_dropAll]; exact fun hm => by simpa [h] using (List.mem_filter.mp hm).2)

end Dbus.Proofs.Bus
