import Dbus.Model.Bus.Timed
import Dbus.Proofs.Bus.Assoc
import Dbus.Proofs.Bus.Activation
/-
  The stamps of the clock layer follow the entries they belong to, never lie in the future, and are never moved once given.
  Its induction principle (`stepT_inv`, `runT_inv`): what `TBus.next` keeps on a transaction of the layer below, and the clock
  going forward keeps, holds after every history.
-/
namespace Dbus.Proofs.Bus
open Dbus.Model.Bus

theorem stampSlots_fst (now : Nat) (old : List (Pending × Nat)) (pend : List Pending) :
    (stampSlots now old pend).map (·.1) = pend := by
  unfold stampSlots
  rw [List.map_map]
  exact List.map_id'' (fun _ => rfl) pend

theorem stampActs_fst (now : Nat) (old : List (Bytes × Nat)) (acts : List PendingAct) :
    (stampActs now old acts).map (·.1) = acts.map (·.name) := by
  unfold stampActs
  rw [List.map_map]
  rfl

/-- `stampSlots` is the case `key := id`, `stampActs` the case `key := (·.name)` -/
theorem stamps_le_now {α γ : Type} [BEq α] [LawfulBEq α] (key : γ → α) (now : Nat) (old : List (α × Nat))
    (hold : ∀ e ∈ old, e.2 ≤ now) (l : List γ) :
    ∀ e ∈ l.map fun x => (key x, (old.lookup (key x)).getD now), e.2 ≤ now := by
  intro e he
  obtain ⟨x, _, rfl⟩ := List.mem_map.mp he
  exact getD_lookup_cases (P := (· ≤ now)) old (key x) now (Nat.le_refl _) fun _ hv => hold _ hv

/-- **A deadline is never moved.** An entry that was there before keeps the stamp it had. -/
theorem stampSlots_keeps (now : Nat) (old : List (Pending × Nat)) (pend : List Pending) (p : Pending) (b : Nat)
    (hl : old.lookup p = some b) (hp : p ∈ pend) : (p, b) ∈ stampSlots now old pend := by
  unfold stampSlots
  exact List.mem_map.mpr ⟨p, hp, by rw [hl]; rfl⟩

theorem stampActs_keeps (now : Nat) (old : List (Bytes × Nat)) (acts : List PendingAct) (pa : PendingAct) (b : Nat)
    (hl : old.lookup pa.name = some b) (hp : pa ∈ acts) : (pa.name, b) ∈ stampActs now old acts := by
  unfold stampActs
  exact List.mem_map.mpr ⟨pa, hp, by rw [hl]; rfl⟩

/-- the stamps never lie in the future -/
def BornOK (t : TBus) : Prop := (∀ e ∈ t.slotBorn, e.2 ≤ t.now) ∧ (∀ e ∈ t.actBorn, e.2 ≤ t.now)

theorem bornOK_next (t : TBus) (x : ATx) (h : BornOK t) : BornOK (t.next x) :=
  ⟨stamps_le_now id t.now t.slotBorn h.1 _, stamps_le_now PendingAct.name t.now t.actBorn h.2 _⟩

theorem bornOK_later (t : TBus) (dt : Nat) (h : BornOK t) : BornOK { t with now := t.now + dt } :=
  ⟨fun e he => Nat.le_trans (h.1 e he) (Nat.le_add_right _ _), fun e he => Nat.le_trans (h.2 e he) (Nat.le_add_right _ _)⟩

theorem fireActs_inv {P : TBus → Prop} (tbl : List IfaceRow) (hnext : ∀ t e, P t → P (t.next (stepA tbl t.a e))) :
    ∀ (ns : List Bytes) (t : TBus) (acc : List ATx), P t → P (fireActs tbl ns t acc).1
  | [], _, _, h => h
  | n :: ns, t, _, h => fireActs_inv tbl hnext ns _ _ (hnext t (.actTimeout n) h)

theorem stepT_inv {P : TBus → Prop} (tbl : List IfaceRow) (hnext : ∀ t e, P t → P (t.next (stepA tbl t.a e)))
    (hlater : ∀ t dt, P t → P { t with now := t.now + dt }) (t : TBus) (ev : TEv) (h : P t) : P (stepT tbl t ev).1 := by
  cases ev with
  | ev e => exact hnext t e h
  | advance dt => exact fireActs_inv tbl hnext _ _ _ (hnext _ _ (hlater t dt h))

theorem runT_fst (tbl : List IfaceRow) (t : TBus) (evs : List TEv) :
    (runT tbl t evs).1 = evs.foldl (fun t ev => (stepT tbl t ev).1) t :=
  (List.foldl_hom Prod.fst (H := fun _ _ => rfl)).symm

theorem runT_inv {P : TBus → Prop} (tbl : List IfaceRow) (hnext : ∀ t e, P t → P (t.next (stepA tbl t.a e)))
    (hlater : ∀ t dt, P t → P { t with now := t.now + dt }) (evs : List TEv) (t : TBus) (h : P t) :
    P (runT tbl t evs).1 :=
  runT_fst tbl t evs ▸ List.foldlRecOn evs _ h fun t ht ev _ => stepT_inv tbl hnext hlater t ev ht

theorem bornOK_runT (tbl : List IfaceRow) (evs : List TEv) (t : TBus) (h : BornOK t) : BornOK (runT tbl t evs).1 :=
  runT_inv tbl (fun t _ => bornOK_next t _) bornOK_later evs t h

theorem next_slots_track (t : TBus) (x : ATx) : (t.next x).slotBorn.map (·.1) = (t.next x).a.core.pending :=
  stampSlots_fst _ _ _

theorem next_acts_track (t : TBus) (x : ATx) : (t.next x).actBorn.map (·.1) = (t.next x).a.acts.map (·.name) :=
  stampActs_fst _ _ _

theorem mem_dueSlots (t : TBus) (T now : Nat) (hT : t.replyTimeout = some T) (p : Pending) :
    p ∈ dueSlots t now ↔ ∃ b, (p, b) ∈ t.slotBorn ∧ b + T ≤ now := by
  unfold dueSlots
  rw [hT]
  simp

theorem dueSlots_never (t : TBus) (now : Nat) (hT : t.replyTimeout = none) : dueSlots t now = [] := by
  unfold dueSlots; rw [hT]

theorem mem_dueActs (t : TBus) (now : Nat) (n : Bytes) :
    n ∈ dueActs t now ↔ ∃ b, (n, b) ∈ t.actBorn ∧ b + t.startTimeout ≤ now := by
  simp [dueActs]

theorem fireActs_txs (tbl : List IfaceRow) : ∀ (ns : List Bytes) (t : TBus) (acc : List ATx),
    ∃ rest : List ATx, (fireActs tbl ns t acc).2 = acc ++ rest ∧ rest.length = ns.length
  | [], _, acc => ⟨[], by simp [fireActs], rfl⟩
  | n :: ns, t, acc => by
    unfold fireActs
    obtain ⟨rest, h, hl⟩ := fireActs_txs tbl ns (t.next (stepA tbl t.a (.actTimeout n))) (acc ++ [stepA tbl t.a (.actTimeout n)])
    exact ⟨stepA tbl t.a (.actTimeout n) :: rest, by rw [h]; simp, by simp [hl]⟩

theorem fireActs_head (tbl : List IfaceRow) (ns : List Bytes) (t : TBus) (x : ATx) (acc : List ATx) :
    (fireActs tbl ns t (x :: acc)).2.head? = some x := by
  obtain ⟨rest, h, _⟩ := fireActs_txs tbl ns t (x :: acc)
  rw [h]; rfl

theorem advance_first_tx (tbl : List IfaceRow) (t : TBus) (dt : Nat) :
    (stepT tbl t (.advance dt)).2.head? =
      some (stepA tbl t.a (.core (.expire (dueSlots { t with now := t.now + dt } (t.now + dt))))) :=
  fireActs_head tbl _ _ _ []

theorem fireActs_now (tbl : List IfaceRow) (ns : List Bytes) (t : TBus) (acc : List ATx) :
    (fireActs tbl ns t acc).1.now = t.now :=
  fireActs_inv (P := fun t' => t'.now = t.now) tbl (fun _ _ h => h) ns t acc rfl

theorem advance_now (tbl : List IfaceRow) (t : TBus) (dt : Nat) : (stepT tbl t (.advance dt)).1.now = t.now + dt := by
  simp only [stepT]
  rw [fireActs_now]; rfl

theorem fireActs_acts (tbl : List IfaceRow) : ∀ (ns : List Bytes) (t : TBus) (acc : List ATx),
    (fireActs tbl ns t acc).1.a.acts = t.a.acts.filter (fun pa => !ns.contains pa.name)
  | [], t, _ => by
    unfold fireActs
    exact (List.filter_eq_self.mpr (fun _ _ => rfl)).symm
  | n :: ns, t, acc => by
    unfold fireActs
    rw [fireActs_acts tbl ns]
    show ((stepA tbl t.a (.actTimeout n)).acts).filter _ = _
    rw [stepA_actTimeout_acts]
    exact filter_not_contains_cons PendingAct.name n ns _

theorem any_due_iff {α : Type} [BEq α] [LawfulBEq α] (born : List (α × Nat)) (T now : Nat) (k : α) :
    (born.any fun e => e.1 == k && decide (e.2 + T ≤ now)) = true ↔ ∃ b, (k, b) ∈ born ∧ b + T ≤ now := by
  simp only [List.any_eq_true, Bool.and_eq_true, beq_iff_eq, decide_eq_true_eq]
  constructor
  · rintro ⟨e, he, rfl, hd⟩; exact ⟨e.2, he, hd⟩
  · rintro ⟨b, hb, hd⟩; exact ⟨(k, b), hb, rfl, hd⟩

end Dbus.Proofs.Bus
