import Dbus.Proofs.Bus.Services
import Dbus.Proofs.Bus.MonitorsStep
import Dbus.Proofs.Bus.Names
/-
  `RegInv.sync` makes "a monitor gives up every name" true of the model, where the names are released by going through
  `services_owned`; with `MonQuiet` it makes the sweep that ends a dispatch of a driver call a no-op for monitors of longer standing.
  The invariant does not hold leaf by leaf: a caller of BecomeMonitor is a monitor with pending replies until the sweep (`Mid c`).
-/
namespace Dbus.Proofs.Bus
open Dbus.Model Dbus.Model.Bus

def NonMon (b : Bus) (d : ConnId) : Prop := ∃ x ∈ b.conns, x.id = d ∧ x.monitor = false

structure RegInv (b : Bus) : Prop where
  sync : ∀ x ∈ b.conns, ∀ s ∈ b.services, inQueue s.owners x.id = true → s.name ∈ x.owned
  live : ∀ s ∈ b.services, ∀ d, inQueue s.owners d = true → NonMon b d
  clean : MonClean b

def MonQuiet (b : Bus) : Prop := ∀ x ∈ b.conns, x.monitor = true → QuietIn b.pending x.id

/-- the model's `connected`, as membership (`conn?_eq_none`) -/
def Connected (b : Bus) (d : ConnId) : Prop := d ∈ b.conns.map (·.id)

def PendLive (b : Bus) : Prop := ∀ e ∈ b.pending, Connected b e.caller ∧ Connected b e.callee

theorem connected_of_nonMon {b : Bus} {d : ConnId} (h : NonMon b d) : Connected b d := by
  obtain ⟨x, hx, hid, _⟩ := h
  exact List.mem_map.mpr ⟨x, hx, hid⟩

theorem nonMon_of_conn {b : Bus} {c : ConnId} {x : Conn} (hx : b.conn? c = some x) (hm : x.monitor = false) : NonMon b c :=
  ⟨x, conn?_mem hx, conn?_id hx, hm⟩

theorem monitor_not_nonMon {b : Bus} (hids : (b.conns.map (·.id)).Nodup) {x : Conn} (hx : x ∈ b.conns) (hm : x.monitor = true) :
    ¬ NonMon b x.id := by
  rintro ⟨y, hy, hyid, hym⟩
  rw [inj_of_nodup_map _ hids hy hx hyid, hm] at hym
  cases hym

theorem nonMon_map {b b' : Bus} (g : Conn → Conn) (hc : b'.conns = b.conns.map g)
    (hg : ∀ x ∈ b.conns, (g x).id = x.id ∧ (g x).monitor = x.monitor) {d : ConnId} (h : NonMon b d) : NonMon b' d := by
  obtain ⟨x, hx, hid, hm⟩ := h
  exact ⟨g x, by rw [hc]; exact List.mem_map_of_mem hx, by rw [(hg x hx).1]; exact hid, by rw [(hg x hx).2]; exact hm⟩

theorem actor_map {b b' : Bus} {c : ConnId} (g : Conn → Conn) (hc : b'.conns = b.conns.map g)
    (hg : ∀ x, (g x).id = x.id ∧ (g x).monitor = x.monitor) (h : Actor b c) : Actor b' c := by
  unfold Actor
  rw [hc, List.forall_mem_map]
  intro x hx hid
  rw [(hg x).2]
  exact h x hx ((hg x).1 ▸ hid)

/-- an edit in a dispatch by `c`: the monitor flag changes only in BecomeMonitor, when `c` stands in no queue -/
def Kept (c : ConnId) (b : Bus) (x y : Conn) : Prop :=
  y.id = x.id ∧ y.owned = x.owned ∧
  (y.monitor = x.monitor ∨ (x.id = c ∧ ∀ s ∈ b.services, inQueue s.owners c = false)) ∧
  ((x.monitor = true → x.rules = []) → y.monitor = true → y.rules = [])

theorem Kept.refl {c : ConnId} {b : Bus} (x : Conn) : Kept c b x x := ⟨rfl, rfl, .inl rfl, id⟩

theorem kept_ite {c : ConnId} {b : Bus} {p : Prop} [Decidable p] {x y : Conn} (h : p → Kept c b x y) :
    Kept c b x (if p then y else x) := by
  split
  · exact h ‹_›
  · exact .refl x

theorem regInv_map {c : ConnId} {b b' : Bus} (g : Conn → Conn) (hc : b'.conns = b.conns.map g) (hs : b'.services = b.services)
    (hg : ∀ x ∈ b.conns, Kept c b x (g x)) (h : RegInv b) : RegInv b' := by
  refine ⟨?_, ?_, ?_⟩
  · rw [hc, hs, List.forall_mem_map]
    intro x hx s hs' hq
    rw [(hg x hx).2.1]
    exact h.sync x hx s hs' ((hg x hx).1 ▸ hq)
  · intro s hs' d hq
    rw [hs] at hs'
    obtain ⟨x, hx, hid, hm⟩ := h.live s hs' d hq
    refine ⟨g x, hc ▸ List.mem_map_of_mem hx, (hg x hx).1.trans hid, ?_⟩
    rcases (hg x hx).2.2.1 with e | ⟨hxc, hno⟩
    · exact e.trans hm
    · -- the flag of `c` changes, but then `c` is not the `d` that stands in a queue
      rw [← hid, hxc, hno s hs'] at hq
      cases hq
  · unfold MonClean
    rw [hc, List.forall_mem_map]
    exact fun x hx => (hg x hx).2.2.2 (h.clean x hx)

theorem regInv_same {b b' : Bus} (hc : b'.conns = b.conns) (hs : b'.services = b.services) (h : RegInv b) : RegInv b' :=
  -- `Kept.refl` holds whoever acts: any `c` will do
  regInv_map (c := 0) id (by rw [hc, List.map_id]) hs (fun x _ => .refl x) h

structure Mid (c : ConnId) (b : Bus) : Prop where
  reg : RegInv b
  quiet : QuietX c b
  svc : ServicesInv b
  plive : PendLive b

/-- `QuietX c` and `PendLive` look at ids, monitor flags and pending replies only -/
theorem mid_of_reg {c : ConnId} {b b' : Bus} (g : Conn → Conn) (hc : b'.conns = b.conns.map g)
    (hsub : ∀ e ∈ b'.pending, e ∈ b.pending)
    (hg : ∀ x ∈ b.conns, (g x).id = x.id ∧ ((g x).monitor = true → (g x).id ≠ c → x.monitor = true))
    (hreg : RegInv b') (hsvc : ServicesInv b') (h : Mid c b) : Mid c b' := by
  refine ⟨hreg, ?_, hsvc, fun e he => ?_⟩
  · unfold QuietX
    rw [hc, List.forall_mem_map]
    intro x hx hm hne e he
    rw [(hg x hx).1] at hne ⊢
    exact h.quiet x hx ((hg x hx).2 hm (by rw [(hg x hx).1]; exact hne)) hne e (hsub e he)
  · unfold Connected
    rw [hc, ids_map fun x hx => (hg x hx).1]
    exact h.plive e (hsub e he)

theorem mid_map {c : ConnId} {b b' : Bus} (g : Conn → Conn) (hc : b'.conns = b.conns.map g) (hs : b'.services = b.services)
    (hsub : ∀ e ∈ b'.pending, e ∈ b.pending) (hg : ∀ x ∈ b.conns, Kept c b x (g x)) (h : Mid c b) : Mid c b' :=
  mid_of_reg g hc hsub (fun x hx => ⟨(hg x hx).1, fun hm hne =>
      (hg x hx).2.2.1.elim (fun e => e ▸ hm) fun hxc => absurd ((hg x hx).1.trans hxc.1) hne⟩)
    (regInv_map g hc hs hg h.reg) (servicesInv_of_services_eq hs h.svc) h

theorem mid_sub {c : ConnId} {b b' : Bus} (hc : b'.conns = b.conns) (hs : b'.services = b.services)
    (hsub : ∀ e ∈ b'.pending, e ∈ b.pending) (h : Mid c b) : Mid c b' :=
  mid_map id (by rw [hc, List.map_id]) hs hsub (fun x _ => .refl x) h

theorem regInv_applyQueue (t : Tx) (n : Bytes) (os' : List Owner) (sigs : List Sig) (h : RegInv t.bus)
    (hnew : ∀ d, inQueue os' d = true → inQueue (ownersOf t.bus n) d = true ∨ NonMon t.bus d) :
    RegInv (applyQueue t n os' sigs).bus := by
  obtain ⟨f, hc, hf⟩ := applyQueue_conns t n os' sigs
  have hsv := applyQueue_services t n os' sigs
  have hnm : ∀ d, NonMon t.bus d → NonMon (applyQueue t n os' sigs).bus d := fun d hd =>
    nonMon_map _ hc (fun _ _ => ⟨rfl, rfl⟩) hd
  refine ⟨?_, ?_, ?_⟩
  · rw [hc, hsv, List.forall_mem_map]
    intro x hx s hs hq
    rcases mem_setOwners hs with ⟨hn, ho⟩ | ⟨hs0, hne⟩
    · rw [hn]
      refine (hf x).1 (ho ▸ hq) fun hwas => ?_
      obtain ⟨s0, hs0, hn0, ho0⟩ := ownersOf_mem hwas
      exact hn0 ▸ h.sync x hx s0 hs0 (ho0 ▸ hwas)
    · exact (hf x).2 _ (h.sync x hx s hs0 hq) hne
  · intro s hs d hq
    rw [hsv] at hs
    rcases mem_setOwners hs with ⟨_, ho⟩ | ⟨hs0, _⟩
    · rcases hnew d (ho ▸ hq) with hd | hn
      · obtain ⟨s0, hs0, _, ho0⟩ := ownersOf_mem hd
        exact hnm d (h.live s0 hs0 d (ho0 ▸ hd))
      · exact hnm d hn
    · exact hnm d (h.live s hs0 d hq)
  · unfold MonClean
    rw [hc, List.forall_mem_map]
    exact h.clean

theorem mid_applyQueue {c : ConnId} {t : Tx} (h : Mid c t.bus) (n : Bytes) {os' : List Owner} (sigs : List Sig) (hq : QInv os')
    (hnew : ∀ d, inQueue os' d = true → inQueue (ownersOf t.bus n) d = true ∨ NonMon t.bus d) :
    Mid c (applyQueue t n os' sigs).bus :=
  have ⟨_, hc, _⟩ := applyQueue_conns t n os' sigs
  mid_of_reg _ hc (fun _ he => applyQueue_pending t n os' sigs ▸ he) (fun _ _ => ⟨rfl, fun hm _ => hm⟩)
    (regInv_applyQueue t n os' sigs h.reg hnew) (servicesInv_applyQueue h.svc n sigs hq) h

theorem mid_acquire {c : ConnId} {t : Tx} (h : Mid c t.bus) (hc : NonMon t.bus c) (n : Bytes) (flags : Nat) :
    Mid c (acquire t c n flags).1.bus :=
  acquire_cases (P := fun r => Mid c r.1.bus) t c n flags (fun _ => h) fun _ =>
    mid_applyQueue h n _ (qinv_qAcquire _ c flags (ownersOf_qinv h.svc n))
      fun d hd => (inQueue_qAcquire hd).imp id fun (e : d = c) => e ▸ hc

theorem mid_release {c : ConnId} {t : Tx} (h : Mid c t.bus) (d : ConnId) (n : Bytes) : Mid c (release t d n).1.bus :=
  release_cases (P := fun r => Mid c r.1.bus) t d n (fun _ => h)
    (mid_applyQueue h n _ (qinv_qRelease _ d (ownersOf_qinv h.svc n)) fun _ hd => .inl (inQueue_qRelease hd))

theorem mid_removeOwner {c : ConnId} {t : Tx} (h : Mid c t.bus) (n : Bytes) (d : ConnId) : Mid c (removeOwner t n d).bus :=
  mid_applyQueue h n _ (qinv_qRemove _ d (ownersOf_qinv h.svc n)) (fun _ he => Or.inl (inQueue_qRemove he))

theorem mid_helloOk {c : ConnId} {t : Tx} (h : Mid c t.bus) (hc : NonMon t.bus c) (m : Msg) : Mid c (helloOk t c m).bus := by
  -- minting moves the counters only; activation edits the connection `c`, who then is the one to join the new queue
  obtain ⟨M, mn, hm⟩ := mint_counters t.bus
  rw [helloOk_bus, hm]
  generalize (mint t.bus).2 = nm
  refine mid_applyQueue ?_ nm _ (qinv_qEnsure c 0) fun d hd => .inr ?_
  · exact mid_map (b := t.bus) (activateConn _ c nm) rfl rfl (fun _ he => he) (fun _ _ => kept_ite fun _ => ⟨rfl, rfl, .inl rfl, id⟩) h
  · obtain rfl : d = c := (inQueue_qAcquire (os := []) (show inQueue (qAcquire [] c 0).1 d = true from hd)).resolve_left nofun
    exact nonMon_map (b := t.bus) (activateConn _ d nm) rfl (fun x _ => ⟨activateConn_id .., activateConn_monitor ..⟩) hc

theorem mid_hello {c : ConnId} {t : Tx} (h : Mid c t.bus) (hc : NonMon t.bus c) (m : Msg) : Mid c (hello t c m).1.bus :=
  hello_cases (P := fun r => Mid c r.1.bus) t c m (fun _ => h) fun _ _ _ => mid_helloOk h hc m

theorem mid_updConn {c : ConnId} {b : Bus} (h : Mid c b) (d : ConnId) (f : Conn → Conn)
    (hf : ∀ x ∈ b.conns, x.id = d → Kept c b x (f x)) : Mid c (b.updConn d f) :=
  mid_map (fun x => if x.id == d then f x else x) rfl rfl (fun _ he => he) (fun x hx => kept_ite fun hid => hf x hx (beq_iff_eq.mp hid)) h

theorem mid_updRules {c : ConnId} {b : Bus} (h : Mid c b) (ha : Actor b c) (g : List MatchRule → List MatchRule) :
    Mid c (b.updRules c g) :=
  mid_updConn h c _ fun x hx hid => ⟨rfl, rfl, .inl rfl, fun _ hm => by rw [ha x hx hid] at hm; cases hm⟩

theorem inQueue_qRemove_self {os : List Owner} {c : ConnId} (hq : QInv os) : inQueue (qRemove os c).1 c = false := by
  rw [qRemove_eq_spec os c hq]
  exact not_member_filter os c

theorem owned_covers {b : Bus} (h : RegInv b) {c : ConnId} {x : Conn} (hx : b.conn? c = some x) :
    ∀ s ∈ b.services, inQueue s.owners c = true → s.name ∈ x.owned :=
  fun s hs hq => h.sync x (conn?_mem hx) s hs (conn?_id hx ▸ hq)

theorem mid_releaseAll {c : ConnId} : ∀ (names : List Bytes) {t : Tx}, Mid c t.bus →
    (∀ s ∈ t.bus.services, inQueue s.owners c = true → s.name ∈ names) →
    Mid c (releaseAll t c names).bus ∧ ∀ s ∈ (releaseAll t c names).bus.services, inQueue s.owners c = false
  | [], _, h, hn => ⟨h, fun s hs => Bool.eq_false_iff.mpr fun hq => nomatch hn s hs hq⟩
  | n :: names, t, h, hn => by
    refine mid_releaseAll names (mid_removeOwner h n c) fun s hs hq => ?_
    unfold removeOwner at hs
    rw [applyQueue_services] at hs
    rcases mem_setOwners hs with ⟨_, ho⟩ | ⟨hs0, hne⟩
    · rw [ho, inQueue_qRemove_self (ownersOf_qinv h.svc n)] at hq; cases hq
    · exact (List.mem_cons.mp (hn s hs0 hq)).resolve_left hne

theorem mid_gcRules {c : ConnId} {b : Bus} (h : Mid c b) (x : Conn) : Mid c (gcRules b x) :=
  gcRules_cases (P := Mid c) b x h fun _ => mid_map _ rfl rfl (fun _ he => he) (h := h) fun y _ => by
    split
    · exact .refl y
    · exact ⟨rfl, rfl, .inl rfl, fun hr hm => by rw [hr hm]; rfl⟩

theorem mid_clearRules {c : ConnId} {b : Bus} (h : Mid c b) (d : ConnId) : Mid c (clearRules b d) :=
  mid_updConn h d _ fun _ _ _ => ⟨rfl, rfl, .inl rfl, fun _ _ => rfl⟩

theorem mid_installMonitorRules {c : ConnId} {b : Bus} (h : Mid c b) (rules : List MatchRule) :
    Mid c (installMonitorRules c rules b) :=
  mid_updConn h c _ fun _ _ _ => ⟨rfl, rfl, .inl rfl, id⟩

theorem mid_beMonitor {c : ConnId} {t : Tx} (h : Mid c t.bus) (rules : List MatchRule) : Mid c (beMonitor t c rules).bus := by
  unfold beMonitor
  cases hx : t.bus.conn? c with
  | none => exact h
  | some x =>
    -- every queue `c` stands in is named in `x.owned`, so after the releases it stands in none
    obtain ⟨h1, hcl⟩ := mid_releaseAll x.owned (t := t.mapBus (installMonitorRules c rules)) (mid_installMonitorRules h rules)
      (owned_covers h.reg hx)
    show Mid c (joinMonitors c x rules _)
    rw [joinMonitors_eq]
    refine mid_updConn (mid_gcRules h1 _) c _ fun _ _ hid => ⟨rfl, rfl, .inr ⟨hid, ?_⟩, fun _ _ => rfl⟩
    rw [gcRules_services]
    exact hcl

theorem checkPolicy_mem (b : Bus) (s a p : Option ConnId) (m : Msg) :
    ∀ e ∈ (checkPolicy b s a p m).1, e ∈ b.pending ∨ (s = some e.caller ∧ a = some e.callee) :=
  checkPolicy_pending (P := fun l => ∀ e ∈ l, e ∈ b.pending ∨ (s = some e.caller ∧ a = some e.callee)) b s a p m
    (fun _ he => .inl he) (fun _ _ _ _ _ hl e he => hl e (List.mem_of_mem_erase he))
    fun _ _ _ hs ha hl _ _ e he => (List.mem_cons.mp he).elim (fun h => h ▸ .inr ⟨hs, ha⟩) (hl e)

def PendStep (s a : Option ConnId) (b b' : Bus) : Prop :=
  b'.conns = b.conns ∧ b'.services = b.services ∧ ∀ e ∈ b'.pending, e ∈ b.pending ∨ (s = some e.caller ∧ a = some e.callee)

theorem PendStep.refl (s a : Option ConnId) (b : Bus) : PendStep s a b b := ⟨rfl, rfl, fun _ he => Or.inl he⟩
theorem PendStep.trans {s a : Option ConnId} {b1 b2 b3 : Bus} (h1 : PendStep s a b1 b2) (h2 : PendStep s a b2 b3) : PendStep s a b1 b3 :=
  ⟨h2.1.trans h1.1, h2.2.1.trans h1.2.1, fun e he => (h2.2.2 e he).elim (h1.2.2 e) Or.inr⟩

theorem PendStep.delivery (s a : Option ConnId) (m : Msg) : Delivery (fun t t' => PendStep s a t.bus t'.bus) s a m where
  refl _ := .refl s a _
  trans h1 h2 := h1.trans h2
  gate t p := ⟨rfl, rfl, checkPolicy_mem t.bus s a p m⟩
  emit _ _ := .refl s a _
  capture t s' a' m' := by
    show PendStep s a t.bus (capture t s' a' m').bus
    rw [capture_bus]
    exact .refl s a _

/-- unaddressed deliveries record no slot: the pending replies only shrink -/
theorem mid_of_pendStep_none {c : ConnId} {s : Option ConnId} {b b' : Bus} (hp : PendStep s none b b') (h : Mid c b) : Mid c b' :=
  mid_sub hp.1 hp.2.1 (fun e he => (hp.2.2 e he).elim id fun h => nomatch h.2) h

theorem mid_runMethod {c : ConnId} {t : Tx} (h : Mid c t.bus) (hc : NonMon t.bus c) (ha : Actor t.bus c) (m : Msg) (w : Method) :
    Mid c (runMethod t c m w).1.bus := by
  have hr : ∀ {t1 : Tx} {tys body}, Mid c t1.bus → Mid c (reply t1 c m tys body).bus := fun h1 => by rw [reply_bus]; exact h1
  refine runMethod_cases (P := fun t' _ => Mid c t'.bus) t c m w
    (refused := fun _ => h)
    (answered := fun _ _ _ => hr h)
    (greeting := fun _ => mid_hello h hc m)
    (requested := fun _ _ => hr (mid_acquire h hc _ _))
    (released := fun _ => hr (mid_release h c _))
    (ruleAdded := fun _ r _ => hr (mid_updRules h ha (· ++ [r])))
    (ruleRemoved := fun _ rs' _ => ?_)
    (monitoring := fun rules => mid_beMonitor (t := reply t c m [] []) (hr h) rules)
    (unmodelled := fun t1 hb _ => hb ▸ h)
  show Mid c ((reply t c m [] []).bus.updRules c fun _ => rs')
  rw [reply_bus]
  exact mid_updRules h ha _

theorem mid_driverHandle (tbl : List IfaceRow) {c : ConnId} {t : Tx} (h : Mid c t.bus) (hc : NonMon t.bus c) (ha : Actor t.bus c) (m : Msg) :
    Mid c (driverHandle tbl t c m).1.bus :=
  driverHandle_cases (P := fun r => Mid c r.1.bus) tbl t c m (fun _ => h) fun _ _ _ => mid_runMethod h hc ha m _

theorem mid_toDriverCore (tbl : List IfaceRow) {c : ConnId} {t : Tx} (h : Mid c t.bus) (hc : NonMon t.bus c) (ha : Actor t.bus c) (m : Msg) :
    Mid c (toDriverCore tbl t c m).1.bus := by
  unfold toDriverCore
  have h0 : Mid c (t.setPending (checkPolicy t.bus (some c) none none m).1).bus :=
    mid_of_pendStep_none ((PendStep.delivery (some c) none m).gate t none) h
  generalize checkPolicy t.bus (some c) none none m = r at h0 ⊢
  obtain ⟨p, _ | e⟩ := r
  · dsimp only
    have h1 := mid_driverHandle tbl (t := t.setPending p) h0 hc ha m
    generalize driverHandle tbl (t.setPending p) c m = r at h1 ⊢
    obtain ⟨t1, _ | e1⟩ := r
    · exact mid_of_pendStep_none ((PendStep.delivery (some c) none _).dispatchMatches t1) h1
    · exact h1
  · exact h0

theorem mid_toDriver (tbl : List IfaceRow) {c : ConnId} {t : Tx} (h : Mid c t.bus) (hc : NonMon t.bus c) (ha : Actor t.bus c) (m : Msg) :
    Mid c (toDriver tbl t c m).1.bus :=
  mid_toDriverCore tbl (t := { t with mon := [] }) h hc ha m

structure Good (b : Bus) : Prop where
  names : NamesInv b
  svc : ServicesInv b
  reg : RegInv b
  quiet : MonQuiet b
  plive : PendLive b

theorem Good.ids {b : Bus} (h : Good b) : (b.conns.map (·.id)).Nodup := ids_names b ▸ h.names.ids_nodup

theorem Good.mid {b : Bus} (h : Good b) (c : ConnId) : Mid c b :=
  ⟨h.reg, fun x hx hm _ => h.quiet x hx hm, h.svc, h.plive⟩

/-- what this file adds to `NamesInv` and `ServicesInv` -/
def Inert (b : Bus) : Prop := RegInv b ∧ MonQuiet b ∧ PendLive b

theorem Good.inert {b : Bus} (h : Good b) : Inert b := ⟨h.reg, h.quiet, h.plive⟩

/-- the hypothesis `hsw` of `step_sim` -/
theorem quietX_before_sweep (tbl : List IfaceRow) {b : Bus} (h : Good b) (c : ConnId) (m : Msg) (ha : Actor b c)
    (hc : NonMon b c) : QuietX c (finish (toDriver tbl { bus := b } c m) c m).bus := by
  rw [finish_bus]
  exact (mid_toDriver tbl (t := { bus := b }) (h.mid c) hc ha m).quiet

theorem after_sweep {c : ConnId} {T : Tx} (h : Mid c T.bus) : Inert (sweepMonitors T).bus := by
  rw [sweep_eq h.quiet]
  refine iteInduction (motive := fun T' : Tx => Inert T'.bus) (fun _ => ?_) fun hany => ?_
  · have hb := dropPending_bus T c
    have hm : Mid c (dropPending T c).bus := mid_sub (by rw [hb]) (by rw [hb]) (fun e he => by rw [hb] at he; exact (List.mem_filter.mp he).1) h
    refine ⟨hm.reg, fun x hx hmon => quietIn_dropPending fun hne => h.quiet x ?_ hmon hne, hm.plive⟩
    rw [hb] at hx
    exact hx
  · refine ⟨h.reg, fun x hx hm => h.quiet x hx hm fun he => hany ?_, h.plive⟩
    exact List.any_eq_true.mpr ⟨x, List.mem_filter.mpr ⟨hx, hm⟩, beq_iff_eq.mpr he⟩

theorem primary?_inQueue {b : Bus} {d : Bytes} {a : ConnId} (h : b.primary? d = some a) :
    ∃ s ∈ b.services, inQueue s.owners a = true := by
  unfold Bus.primary? at h
  cases hs : b.service? d with
  | none => rw [hs] at h; cases h
  | some s =>
    rw [hs] at h
    obtain ⟨o, ho, rfl⟩ := Option.map_eq_some_iff.mp h
    exact ⟨s, List.mem_of_find?_eq_some hs, List.any_eq_true.mpr ⟨o, List.mem_of_head? ho, beq_self_eq_true _⟩⟩

theorem inert_of_pending {b b' : Bus} (h : Good b) (hc : b'.conns = b.conns) (hs : b'.services = b.services)
    (hp : ∀ e ∈ b'.pending, e ∈ b.pending ∨ (NonMon b e.caller ∧ NonMon b e.callee)) : Inert b' := by
  refine ⟨regInv_same hc hs h.reg, ?_, ?_⟩
  · intro x hx hm e he
    rw [hc] at hx
    rcases hp e he with hold | ⟨h1, h2⟩
    · exact h.quiet x hx hm e hold
    · have ne : ∀ d, NonMon b d → d ≠ x.id := fun d hd heq => monitor_not_nonMon h.ids hx hm (heq ▸ hd)
      exact involves_eq_false.mpr ⟨ne _ h1, ne _ h2⟩
  · intro e he
    unfold Connected
    rw [hc]
    rcases hp e he with hold | ⟨h1, h2⟩
    · exact h.plive e hold
    · exact ⟨connected_of_nonMon h1, connected_of_nonMon h2⟩

/-- a slot is recorded only between the sender and the primary owner addressed, who stands in a queue -/
theorem inert_route {b : Bus} (h : Good b) (c : ConnId) (hcn : NonMon b c) (m : Msg) :
    Inert (finish (route { bus := b } c m) c m).bus := by
  rw [finish_bus]
  refine route_cases (P := fun r => Inert r.1.bus) { bus := b } c m (fun _ => ?_) fun a ha => ?_
  · rw [capture_bus]
    exact h.inert
  · have D := PendStep.delivery (some c) a m
    have hp := D.trans (D.capture { bus := b } (some c) a m) (D.dispatchMatches _)
    refine inert_of_pending h hp.1 hp.2.1 fun e he => (hp.2.2 e he).imp id fun ⟨hs, hcal⟩ => ⟨Option.some.inj hs ▸ hcn, ?_⟩
    rcases ha with rfl | ⟨d, _, hd⟩
    · cases hcal
    · obtain ⟨s, hs', hq⟩ := primary?_inQueue (hd.trans hcal)
      exact h.reg.live s hs' _ hq

theorem inert_removeConn {c : ConnId} {b : Bus} (h : Mid c b) (hno : ∀ s ∈ b.services, inQueue s.owners c = false) :
    Inert { removeConn c b with pending := b.pending.filter fun p => !involves c p } := by
  have old : ∀ {y}, y ∈ (removeConn c b).conns → y ∈ b.conns := fun hy => (List.mem_filter.mp hy).1
  have keep : ∀ {y}, y ∈ b.conns → y.id ≠ c → y ∈ (removeConn c b).conns := fun hy hne =>
    List.mem_filter.mpr ⟨hy, bne_iff_ne.mpr hne⟩
  refine ⟨⟨fun y hy => h.reg.sync y (old hy), fun s hs d hq => ?_, fun y hy => h.reg.clean y (old hy)⟩,
    fun y hy hm e he => h.quiet y (old hy) hm (bne_iff_ne.mp (List.mem_filter.mp hy).2) e (List.mem_filter.mp he).1,
    fun e he => ?_⟩
  · obtain ⟨y, hy, hyid, hym⟩ := h.reg.live s hs d hq
    have hdc : d ≠ c := fun e => by rw [e, hno s hs] at hq; cases hq
    exact ⟨y, keep hy (hyid ▸ hdc), hyid, hym⟩
  · obtain ⟨he1, he2⟩ := List.mem_filter.mp he
    have hinv := involves_eq_false.mp (Bool.not_eq_eq_eq_not.mp he2)
    have keepC : ∀ d, d ≠ c → Connected b d → Connected (removeConn c b) d := fun d hd hcn => by
      obtain ⟨y, hy, hyid⟩ := List.mem_map.mp hcn
      exact List.mem_map.mpr ⟨y, keep hy (hyid ▸ hd), hyid⟩
    exact ⟨keepC _ hinv.1 (h.plive e he1).1, keepC _ hinv.2 (h.plive e he1).2⟩

theorem inert_disconnect {b : Bus} (h : Good b) (c : ConnId) : Inert (disconnect b c).bus := by
  refine disconnect_cases (P := fun T => Inert T.bus) b c (fun _ => h.inert) fun x hx => ?_
  show Inert (disconnectTx b c x).bus
  rw [disconnectTx_bus]
  obtain ⟨h2, hcl⟩ := mid_releaseAll x.owned.reverse (t := { bus := clearRules (gcRules b x) c })
    (mid_clearRules (mid_gcRules (h.mid c) x) c)
    fun s hs hq => List.mem_reverse.mpr (owned_covers h.reg hx s (gcRules_services b x ▸ hs) hq)
  exact inert_removeConn h2 hcl

/-- a newcomer stands in no queue: who stands in one is connected already -/
theorem inert_connect {b : Bus} (h : Good b) (x : Conn) (hn : b.conn? x.id = none) (hm : x.monitor = false) :
    Inert { b with conns := b.conns ++ [x] } := by
  have old {P : Conn → Prop} (h1 : ∀ y ∈ b.conns, P y) (h2 : P x) : ∀ y ∈ b.conns ++ [x], P y :=
    List.forall_mem_append.mpr ⟨h1, List.forall_mem_singleton.mpr h2⟩
  have noMon {p : Prop} (h : x.monitor = true) : p := nomatch hm ▸ h
  refine ⟨⟨old h.reg.sync fun s hs hq => ?_, fun s hs d hq => ?_, old h.reg.clean noMon⟩, old h.quiet noMon, fun e he => ?_⟩
  · exact absurd (connected_of_nonMon (h.reg.live s hs x.id hq)) (conn?_eq_none.mp hn)
  · obtain ⟨y, hy, hyid, hym⟩ := h.reg.live s hs d hq
    exact ⟨y, List.mem_append_left _ hy, hyid, hym⟩
  · unfold Connected
    simp only [List.map_append, List.mem_append]
    exact ⟨.inl (h.plive e he).1, .inl (h.plive e he).2⟩

theorem good_dispatch (tbl : List IfaceRow) {b : Bus} (h : Good b) (c : ConnId) (m0 : Msg) :
    RegInv (dispatch tbl b c m0).bus ∧ MonQuiet (dispatch tbl b c m0).bus ∧ PendLive (dispatch tbl b c m0).bus := by
  refine dispatch_cases (P := fun T => Inert T.bus) tbl b c m0
    (unknown := fun _ => h.inert)
    (peer := fun _ _ _ _ => h.inert)
    (monitor := fun _ _ _ _ => inert_disconnect h c)
    (builtin := fun _ _ _ _ _ _ => h.inert)
    (driver := fun x hx _ hm _ _ => after_sweep (c := c) ?_)
    (unnamed := fun _ _ _ _ _ _ _ => inert_disconnect h c)
    (routed := fun x hx _ hm _ _ _ => inert_route h c (nonMon_of_conn hx hm) _)
  rw [finish_bus]
  exact mid_toDriver tbl (t := { bus := b }) (h.mid c) (nonMon_of_conn hx hm) (actor_of_conn h.ids hx hm) _

theorem good_step (tbl : List IfaceRow) {b : Bus} (h : Good b) (ev : Ev) : Good (step tbl b ev).bus := by
  have hn := namesInv_step tbl b ev h.names
  have hs : ServicesInv (step tbl b ev).bus := lv_step services_leaves tbl b ev h.svc
  suffices hrq : Inert (step tbl b ev).bus from ⟨hn, hs, hrq.1, hrq.2.1, hrq.2.2⟩
  have fewer : ∀ {b' : Bus}, b'.conns = b.conns → b'.services = b.services → (∀ e ∈ b'.pending, e ∈ b.pending) → Inert b' :=
    fun hc hs hsub => inert_of_pending h hc hs fun e he => .inl (hsub e he)
  cases ev with
  | connect c uid gids canFd =>
    exact step_connect_cases (P := fun r => Inert r.bus) tbl b c uid gids canFd (fun _ => h.inert) fun hc => inert_connect h _ hc rfl
  | msg c m => exact good_dispatch tbl h c m
  | invalid c => exact step_invalid_bus tbl b c ▸ inert_disconnect h c
  | close c => exact inert_disconnect h c
  | timeout => exact step_timeout_bus tbl b ▸ fewer rfl rfl fun _ he => nomatch he
  | expire due => exact step_expire_bus tbl b due ▸ fewer rfl rfl fun _ he => (List.mem_filter.mp he).1
  | stall c on => exact fewer rfl rfl fun e he => he
  | reload p =>
    show Inert (reloadPolicy b p)
    have hm := fun c => mid_map (c := c) (b' := reloadPolicy b p) (reloadConn b p) rfl rfl (fun _ he => he)
      (fun _ _ => kept_ite fun _ => ⟨rfl, rfl, .inl rfl, id⟩) (h.mid c)
    -- `MonQuiet` is `QuietX c` for a `c` that is not the monitor in question
    exact ⟨(hm 0).reg, fun x hx hmon => (hm (x.id + 1)).quiet x hx hmon (Nat.ne_of_lt (Nat.lt_succ_self _)), (hm 0).plive⟩

theorem good_init (l : Limits) (p : Policy) : Good { limits := l, policy := p } where
  names := namesInv_init l p
  svc := servicesInv_init l p
  reg := ⟨fun x hx => (by cases hx), fun s hs => (by cases hs), fun x hx => (by cases hx)⟩
  quiet := fun x hx => by cases hx
  plive := fun e he => by cases he

theorem good_run (tbl : List IfaceRow) {b : Bus} (h : Good b) (evs : List Ev) : Good (run tbl b evs).1 :=
  run_inv (P := Good) tbl (fun _ ev hb => good_step tbl hb ev) b evs h

end Dbus.Proofs.Bus
