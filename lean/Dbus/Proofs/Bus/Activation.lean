import Dbus.Model.Bus.Activation
import Dbus.Proofs.Bus.Frame
import Dbus.Proofs.Bus.Registry
namespace Dbus.Proofs.Bus
open Dbus.Spec Dbus.Model Dbus.Model.Bus

inductive Each₂ {α β : Type} (R : α → β → Prop) : List α → List β → Prop
  | nil : Each₂ R [] []
  | cons {a : α} {b : β} {as : List α} {bs : List β} (h : R a b) (t : Each₂ R as bs) : Each₂ R (a :: as) (b :: bs)

theorem Each₂.length_eq {α β : Type} {R : α → β → Prop} {as : List α} {bs : List β} (h : Each₂ R as bs) : as.length = bs.length := by
  induction h with
  | nil => rfl
  | cons _ _ ih => simp [ih]

theorem fold_each {α : Type} (f : Tx → α → Tx) (R : α → List Out → Prop)
    (hf : ∀ t a, core (f t a).bus = core t.bus ∧ ∃ l, (f t a).out = t.out ++ l ∧ R a l) : ∀ (es : List α) (t : Tx),
    core (es.foldl f t).bus = core t.bus ∧ ∃ ls : List (List Out), (es.foldl f t).out = t.out ++ ls.flatten ∧ Each₂ R es ls
  | [], _ => ⟨rfl, [], by simp, .nil⟩
  | e :: es, t => by
    obtain ⟨hc1, l, hl, hh⟩ := hf t e
    obtain ⟨hc, ls, hls, hr⟩ := fold_each f R hf es (f t e)
    exact ⟨hc.trans hc1, l :: ls, by rw [List.foldl_cons, hls, hl]; simp, .cons hh hr⟩

theorem connected_core {b b' : Bus} (h : core b' = core b) (c : ConnId) : connected b' c = connected b c :=
  show connected (core b') c = connected (core b) c from congrArg (connected · c) h

/-- an error reply made by the bus for `m` -/
def IsErrorFor (m x : Msg) : Prop := x.mtype = 3 ∧ x.replySerial = m.serial ∧ x.sender = some BUS_NAME

theorem known_mkErrorNamed (m : Msg) (name : Bytes) : KnownFields (mkErrorNamed m name) :=
  known_mkMsg (by cases m.sender <;> simp [FIELD_REPLY_SERIAL, FIELD_ERROR_NAME, FIELD_DESTINATION])

theorem replySerial_mkErrorNamed (m : Msg) (name : Bytes) : (mkErrorNamed m name).replySerial = m.serial :=
  replySerial_mkMsg

theorem sendErrorNamed_out (t : Tx) (to : ConnId) (m : Msg) (name : Bytes) :
    (sendErrorNamed t to m name).out = t.out ∨
    ∃ x, (sendErrorNamed t to m name).out = t.out ++ [Out.deliver to x] ∧ IsErrorFor m x :=
  (sendFromDriver_shape t to (known_mkErrorNamed m name)).imp_right
    fun ⟨x, h, h1, h2, _, h4⟩ => ⟨x, h, h1, h2.trans (replySerial_mkErrorNamed m name), h4⟩

/-- what one entry of a pending activation contributes when the name is taken by `owner` -/
inductive HeldOut (owner : ConnId) (e : ActEntry) : List Out → Prop
  /-- not an auto-start entry, or its sender has gone -/
  | skipped : HeldOut owner e []
  /-- delivered: one copy to the new owner, first, then copies of the same message to eavesdroppers (never the owner again) -/
  | delivered (l : List Out) (h : ∀ o ∈ l, ∃ to, o = Out.deliver to e.msg ∧ to ≠ owner) : HeldOut owner e (Out.deliver owner e.msg :: l)
  /-- refused by the policy gate, now that there is a recipient: nothing is delivered, the sender gets the error
      (unless its own policy refuses even that) -/
  | refused (l : List Out) (h : l = [] ∨ ∃ x, l = [Out.deliver e.conn x] ∧ IsErrorFor e.msg x) : HeldOut owner e l

theorem deliverHeld_spec (owner : ConnId) (t : Tx) (e : ActEntry) :
    core (deliverHeld owner t e).bus = core t.bus ∧
    ∃ l, (deliverHeld owner t e).out = t.out ++ l ∧ HeldOut owner e l := by
  unfold deliverHeld
  refine iteInduction (motive := fun T : Tx => core T.bus = core t.bus ∧ ∃ l, T.out = t.out ++ l ∧ HeldOut owner e l) (fun _ => ?_)
    fun _ => ⟨rfl, [], (List.append_nil _).symm, .skipped⟩
  -- `dispatchMatches`, then `finish`
  rcases hcp : checkPolicy t.bus (some e.conn) (some owner) (some owner) e.msg with ⟨p, verdict⟩
  refine dispatchMatches_cases (P := fun r => core (finish r e.conn e.msg).bus = core t.bus ∧
    ∃ l, (finish r e.conn e.msg).out = t.out ++ l ∧ HeldOut owner e l) hcp (fun err => ?_) fun _ _ => ?_
  · refine ⟨finish_core (t.setPending p, some err) _ _, ?_⟩
    rcases sendErrorNamed_out (t.setPending p) e.conn e.msg err.name with h | ⟨x, h, hx⟩
    · exact ⟨[], h.trans (List.append_nil _).symm, .refused [] (.inl rfl)⟩
    · exact ⟨_, h, .refused _ (.inr ⟨x, rfl, hx⟩)⟩
  · obtain ⟨hc, _⟩ := sendMatches_spec ((t.setPending p).emit (.deliver owner e.msg)) (some e.conn) (some owner) e.msg
    obtain ⟨l, hl, hs⟩ := sendMatches_sublist ((t.setPending p).emit (.deliver owner e.msg)) (some e.conn) (some owner) e.msg
    refine ⟨hc, Out.deliver owner e.msg :: l, hl.trans (List.append_assoc ..), .delivered l fun o ho => ?_⟩
    obtain ⟨r, hr, rfl⟩ := List.mem_map.mp (hs.subset ho)
    exact ⟨r, rfl, fun heq => not_mem_recipients _ _ owner e.msg (heq ▸ hr)⟩

/-- a method return made by the bus for `m` carrying one `u32` -/
def IsStartReply (code : Nat) (m x : Msg) : Prop :=
  x.mtype = 2 ∧ x.replySerial = m.serial ∧ x.sender = some BUS_NAME ∧ x.body = [.fixed .u32 code]

inductive StartedOut (e : ActEntry) : List Out → Prop
  | skipped : StartedOut e []
  | answered (x : Msg) (h : IsStartReply 1 e.msg x) : StartedOut e [Out.deliver e.conn x]

theorem setFieldList_body (m : Msg) (f : Field) : (m.setField f).body = m.body := rfl

theorem reply_u32_out (t : Tx) (c : ConnId) (call : Msg) (code : Nat) :
    (reply t c call [tU32] [.fixed .u32 code]).out = t.out ∨
    ∃ x, (reply t c call [tU32] [.fixed .u32 code]).out = t.out ++ [Out.deliver c x] ∧ IsStartReply code call x :=
  (sendFromDriver_shape t c (known_mkReturn call [tU32] [.fixed .u32 code])).imp_right
    fun ⟨x, h, h1, h2, h3, h4⟩ => ⟨x, h, h1, h2.trans (replySerial_mkReturn ..), h4, h3⟩

theorem replyStarted_bus (t : Tx) (e : ActEntry) : (replyStarted t e).bus = t.bus :=
  iteInduction (motive := fun r : Tx => r.bus = t.bus) (fun _ => reply_bus ..) fun _ => rfl

theorem replyStarted_spec (t : Tx) (e : ActEntry) :
    core (replyStarted t e).bus = core t.bus ∧
    ∃ l, (replyStarted t e).out = t.out ++ l ∧ (l = [] ∨ StartedOut e l) := by
  refine ⟨congrArg core (replyStarted_bus t e), ?_⟩
  unfold replyStarted
  split
  · rcases reply_u32_out t e.conn e.msg 1 with h | ⟨x, h, hx⟩
    · exact ⟨[], by rw [h]; simp, Or.inl rfl⟩
    · exact ⟨_, h, Or.inr (.answered x hx)⟩
  · exact ⟨[], by simp, Or.inl rfl⟩

/-- what one entry of a failed activation contributes -/
inductive FailOut (e : ActEntry) : List Out → Prop
  | none : FailOut e []
  | error (x : Msg) (h : IsErrorFor e.msg x) : FailOut e [Out.deliver e.conn x]

theorem failEntry_bus (err : Bytes) (t : Tx) (e : ActEntry) : (failEntry err t e).bus = t.bus :=
  iteInduction (motive := fun r : Tx => r.bus = t.bus) (fun _ => sendFromDriver_bus ..) fun _ => rfl

theorem failEntry_spec (err : Bytes) (t : Tx) (e : ActEntry) :
    core (failEntry err t e).bus = core t.bus ∧ ∃ l, (failEntry err t e).out = t.out ++ l ∧ FailOut e l := by
  refine ⟨congrArg core (failEntry_bus err t e), ?_⟩
  unfold failEntry
  split
  · rcases sendErrorNamed_out t e.conn e.msg err with h | ⟨x, h, hx⟩
    · exact ⟨[], by rw [h]; simp, .none⟩
    · exact ⟨_, h, .error x hx⟩
  · exact ⟨[], by simp, .none⟩

theorem findAct_none_iff (acts : List PendingAct) (n : Bytes) : findAct acts n = none ↔ n ∉ acts.map (·.name) := by
  unfold findAct
  rw [List.find?_eq_none]
  simp only [List.mem_map, not_exists, not_and, beq_iff_eq]

theorem findAct_dropAct (acts : List PendingAct) (n : Bytes) : findAct (dropAct acts n) n = none := by
  rw [findAct_none_iff]
  unfold dropAct
  simp only [List.mem_map, List.mem_filter, not_exists, not_and]
  intro pa ⟨_, hne⟩ heq
  simp [heq] at hne

theorem findAct_append_new (acts : List PendingAct) (pa : PendingAct) : (findAct (acts ++ [pa]) pa.name).isSome = true := by
  unfold findAct
  rw [List.find?_append]
  cases h : List.find? (fun x => x.name == pa.name) acts with
  | some _ => rfl
  | none => simp

theorem names_joinAct (e : ActEntry) (n : Bytes) (acts : List PendingAct) :
    (acts.map (joinAct e n)).map (·.name) = acts.map (·.name) := by
  rw [List.map_map]
  apply List.map_congr_left
  intro pa _
  unfold joinAct
  simp only [Function.comp]
  split <;> rfl

theorem activateService_cases {P : ATx × Option Bytes → Prop} (files : List SvcFile) (maxP : Nat) (x : ATx) (c : ConnId) (auto : Bool)
    (m : Msg) (n : Bytes)
    (refused : ∀ e, P (x, some e))
    (running : P ({ x with t := reply x.t c m [tU32] [.fixed .u32 2] }, none))
    (joined : (findAct x.acts n).isSome → P ({ x with acts := x.acts.map (joinAct { conn := c, msg := m, auto := auto } n) }, none))
    (started : ∀ (f : SvcFile) (k : Option Nat), findAct x.acts n = none →
      P ({ x with acts := x.acts ++ [{ name := n, exec := f.exec, entries := [{ conn := c, msg := m, auto := auto }], child := k }],
                  spawned := x.spawned ++ [(n, k)], nspawn := if k.isSome then x.nspawn + 1 else x.nspawn }, none)) :
    P (activateService files maxP x c auto m n) := by
  unfold activateService
  refine iteInduction (fun _ => refused _) fun _ => ?_
  cases files.find? (·.name == n) with
  | none => exact refused _
  | some f =>
    dsimp only
    cases (if auto then (checkPolicy x.t.bus (some c) none none m).2 else none) with
    | some e => exact refused _
    | none =>
      dsimp only
      refine iteInduction (fun _ => running) fun _ => ?_
      cases hf : findAct x.acts n with
      | some pa => exact joined (by rw [hf]; rfl)
      | none =>
        dsimp only
        refine iteInduction (fun h => ?_) fun _ => iteInduction (fun _ => refused _) fun _ =>
          iteInduction (fun _ => started f (some x.nspawn) hf) fun _ => started f none hf
        cases hr : f.refuse with
        | none => rw [hr] at h; cases h
        | some e => exact refused e

theorem activateService_bus (files : List SvcFile) (maxP : Nat) (x : ATx) (c : ConnId) (auto : Bool) (m : Msg) (n : Bytes) :
    (activateService files maxP x c auto m n).1.t.bus = x.t.bus :=
  activateService_cases (P := fun r => r.1.t.bus = x.t.bus) files maxP x c auto m n
    (refused := fun _ => rfl) (running := reply_bus ..) (joined := fun _ => rfl) (started := fun _ _ _ => rfl)

theorem serviceCreated_bus (t : Tx) (pa : PendingAct) : (serviceCreated t pa).bus = t.bus :=
  foldl_same Tx.bus replyStarted_bus pa.entries t

/-- the bus the core's `acquire` leaves when nobody owned the name: the one `acquireA`, which spells that case out, ends in
    (`acquireA_cases`) -/
theorem acquireA_fresh_bus (t : Tx) (c : ConnId) (n : Bytes) (flags : Nat)
    (h1 : validateBusName n = true) (h2 : ¬ (n.head? == some 0x3a) = true) (h3 : ¬ (n == BUS_NAME) = true)
    (h4 : canOwn (connPolicy t.bus c) n = true) (h5 : ¬ nOwned t.bus c ≥ t.bus.limits.maxNames)
    (he : (ownersOf t.bus n).isEmpty = true) :
    (acquire t c n flags).1.bus = syncOwned (t.bus.setOwners n [mkOwner c flags]) n [] [mkOwner c flags] := by
  have hnil : ownersOf t.bus n = [] := by simpa using he
  unfold acquire
  simp only [h1, h2, h3, h4, h5, Bool.not_true, Bool.false_eq_true, if_false]
  rw [applyQueue_bus, hnil, qAcquire_nil]

theorem acquireA_cases {P : ATx × Except Err Nat → Prop} (x : ATx) (c : ConnId) (n : Bytes) (flags : Nat)
    (refused : ∀ e, P (x, .error e))
    (granted : Admitted x.t.bus c n → ∀ (t' : Tx) (code : Nat), t'.bus = (acquire x.t c n flags).1.bus →
      P (sendPending { x with t := t' } n, .ok code)) : P (acquireA x c n flags) := by
  unfold acquireA
  refine iteInduction (fun _ => refused _) fun h1 => ?_
  refine iteInduction (fun _ => refused _) fun h2 => ?_
  refine iteInduction (fun _ => refused _) fun h3 => ?_
  refine iteInduction (fun _ => refused _) fun h4 => ?_
  refine iteInduction (fun _ => refused _) fun h5 => ?_
  have ha : Admitted x.t.bus c n := ⟨by simpa using h1, by simpa using h2, by simpa using h3, by simpa using h4, by omega⟩
  -- with an owner there already `acquireA` calls `acquire`; without, it sends the signals and the replies to those who asked for
  -- the start itself and installs the queue: sends leave the bus alone, so the same `syncOwned` of the same bus results
  refine iteInduction (fun he => granted ha _ _ ?_) fun _ => granted ha _ _ rfl
  rw [acquireA_fresh_bus x.t c n flags ha.valid h2 h3 ha.allowed h5 he]
  show syncOwned (Bus.setOwners (emitSig n _ (.acquired c)).bus n [mkOwner c flags]) n [] [mkOwner c flags] = _
  rw [emitSig_bus]
  cases findAct x.acts n with
  | none => rw [emitSig_bus]
  | some pa => rw [serviceCreated_bus, emitSig_bus]

theorem driverHandleA_cases {P : ATx × Option Bytes → Prop} (tbl : List IfaceRow) (files : List SvcFile) (maxP : Nat) (x : ATx) (c : ConnId)
    (m : Msg) (unhandled : ∀ e, P (x, e))
    (handled : ∀ i row, findHandler tbl (m.path == some DBUS_PATH) m.iface (m.member.getD []) = .handler i row →
      P (runMethodA files maxP x c m i row.name)) : P (driverHandleA tbl files maxP x c m) := by
  unfold driverHandleA
  refine iteInduction (fun _ => unhandled _) fun _ => ?_
  dsimp only
  cases hf : findHandler tbl (m.path == some DBUS_PATH) m.iface (m.member.getD []) with
  | noInterface => exact unhandled _
  | noMethod => exact unhandled _
  | handler i row =>
    exact iteInduction (fun _ => unhandled _) fun _ => iteInduction (fun _ => unhandled _) fun _ =>
      iteInduction (fun _ => unhandled _) fun _ => handled i row hf

theorem dispatchA_cases {P : ATx → Prop} (tbl : List IfaceRow) (a : ABus) (c : ConnId) (m0 : Msg)
    (core : P (ofCore a (dispatch tbl a.core c m0)))
    (driver : P { finishA (toDriverA tbl a.files a.maxPending (ofCore a { bus := a.core }) c (stamped a.core c m0)) c (stamped a.core c m0) with
      t := sweepMonitors (finishA (toDriverA tbl a.files a.maxPending (ofCore a { bus := a.core }) c (stamped a.core c m0)) c (stamped a.core c m0)).t })
    (routed : P (finishA (routeA a.files a.maxPending (ofCore a { bus := a.core }) c (stamped a.core c m0)) c (stamped a.core c m0))) :
    P (dispatchA tbl a c m0) := by
  unfold dispatchA
  cases hx : a.core.conn? c with
  | none => exact dispatch_none tbl m0 hx ▸ core
  | some x =>
    dsimp only
    exact iteInduction (fun _ => core) fun _ => iteInduction (fun _ => core) fun _ => iteInduction (fun _ => core) fun _ =>
      iteInduction (fun _ => driver) fun _ => iteInduction (fun _ => core) fun _ => routed

theorem stepA_cases {P : ATx → Prop} (tbl : List IfaceRow) (a : ABus) (ev : AEv)
    (msg : ∀ c m, P (dispatchA tbl a c m))
    (core : ∀ e, P (ofCore a (step tbl a.core e)))
    (idle : P (ofCore a { bus := a.core }))
    (failed : ∀ n err, P (childFailed (ofCore a { bus := a.core }) n err))
    (timeout : ∀ n, P (timedOut (ofCore a { bus := a.core }) n)) : P (stepA tbl a ev) := by
  cases ev with
  | core e =>
    cases e with
    | msg c m => exact msg c m
    | _ => exact core _
  | childExited k err =>
    cases err with
    | none => exact idle
    | some err =>
      simp only [stepA]
      cases a.acts.find? (·.child == some k) with
      | none => exact idle
      | some pa => exact failed ..
  | execFailed n =>
    simp only [stepA]
    cases findAct a.acts n with
    | none => exact idle
    | some pa => exact iteInduction (fun _ => failed ..) fun _ => idle
  | actTimeout n => exact timeout n

theorem routeA_bus (files : List SvcFile) (maxP : Nat) (x : ATx) (c : ConnId) (m : Msg) :
    (routeA files maxP x c m).1.t.bus = (route x.t c m).1.bus := by
  unfold routeA route
  cases m.dest with
  | none => rfl
  | some d =>
    dsimp only
    cases x.t.bus.primary? d with
    | some a => rfl
    | none =>
      dsimp only
      exact iteInduction (motive := fun r : ATx × Option Bytes => r.1.t.bus = (capture x.t (some c) none m).bus) (fun _ => rfl)
        fun _ => activateService_bus ..

theorem finishA_bus (r : ATx × Option Bytes) (c : ConnId) (m : Msg) : (finishA r c m).t.bus = r.1.t.bus := by
  obtain ⟨x, _ | e⟩ := r
  · rfl
  · exact sendFromDriver_bus ..

theorem failAct_bus (err : Bytes) (x : ATx) (pa : PendingAct) : (failAct err x pa).t.bus = x.t.bus :=
  foldl_same Tx.bus (failEntry_bus err) pa.entries x.t

theorem childFailed_bus (x : ATx) (n err : Bytes) : (childFailed x n err).t.bus = x.t.bus := by
  unfold childFailed
  cases findAct x.acts n with
  | none => rfl
  | some pa =>
    dsimp only
    rw [failAct_bus]
    exact foldl_same (fun x : ATx => x.t.bus) (failAct_bus err) _ x

theorem timedOut_bus (x : ATx) (n : Bytes) : (timedOut x n).t.bus = x.t.bus := by
  unfold timedOut
  cases findAct x.acts n with
  | none => rfl
  | some pa => exact failAct_bus ERR_TIMED_OUT x pa

theorem timedOut_acts (x : ATx) (n : Bytes) : (timedOut x n).acts = dropAct x.acts n := by
  unfold timedOut
  cases h : findAct x.acts n with
  | none =>
    exact (List.filter_eq_self.mpr fun pa hpa => by simpa using List.find?_eq_none.mp h pa hpa).symm
  | some pa =>
    show dropAct x.acts pa.name = _
    rw [show pa.name = n by simpa using List.find?_some h]

theorem stepA_actTimeout_acts (tbl : List IfaceRow) (a : ABus) (n : Bytes) :
    (stepA tbl a (.actTimeout n)).acts = dropAct a.acts n := by
  simp only [stepA]
  rw [timedOut_acts]; rfl

end Dbus.Proofs.Bus
