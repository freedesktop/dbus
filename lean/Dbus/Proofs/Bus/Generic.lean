import Dbus.Proofs.Bus.Frame
namespace Dbus.Proofs.Bus
open Dbus.Model Dbus.Model.Bus

structure Leaves (K : Bus → Bus → Prop) : Prop where
  refl : ∀ b, K b b
  trans : ∀ a b c, K a b → K b c → K a c
  gate : ∀ b s a p m, K b { b with pending := (checkPolicy b s a p m).1 }
  forget : ∀ b c, K b { b with pending := b.pending.filter fun p => !involves c p }
  /-- every pending reply times out -/
  expire : ∀ b, K b { b with pending := [] }
  /-- some pending replies time out -/
  expireSome : ∀ b (f : Pending → Bool), K b { b with pending := b.pending.filter f }
  acquire : ∀ t c n flags, t.bus.isActive c = true → K t.bus (acquire t c n flags).1.bus
  release : ∀ t c n, K t.bus (release t c n).1.bus
  removeOwner : ∀ t n c, K t.bus (removeOwner t n c).bus
  helloOk : ∀ t c m, t.bus.isActive c = false → nCompleted t.bus < t.bus.limits.maxCompleted →
    nCompletedFor t.bus (uidOf t.bus c) < t.bus.limits.maxPerUser → K t.bus (helloOk t c m).bus
  addRule : ∀ b c r, b.isActive c = true → nRules b c < b.limits.maxRules → K b (b.updRules c (· ++ [r]))
  removeRule : ∀ b c r rs', removeRule (rulesOfConn b c) r = some rs' → K b (b.updRules c fun _ => rs')
  gcRules : ∀ b c x, b.conn? c = some x → K b (gcRules b x)
  /-- BecomeMonitor: the filter is installed, … -/
  installMonitor : ∀ b c rules, K b (installMonitorRules c rules b)
  /-- … and, the names released, the connection's ordinary rules go and it joins the monitors -/
  joinMonitors : ∀ b c x rules, K b (joinMonitors c x rules b)
  clearRules : ∀ b c, K b (clearRules b c)
  removeConn : ∀ b c, K b (removeConn c b)
  connect : ∀ b c uid gids canFd, (b.conn? c).isSome = false →
    K b { b with conns := b.conns ++ [{ id := c, uid := uid, gids := gids, canFd := canFd }] }
  /-- a connection stops or resumes reading: which outgoing queues are full changes -/
  setFull : ∀ b l, K b { b with full := l }
  /-- the configuration is reloaded: a new policy for the bus and for every registered connection -/
  setPolicy : ∀ b p, K b (reloadPolicy b p)

theorem Leaves.of_acts {K : Bus → Bus → Prop} (L : Leaves K) {c : ConnId} {b b' : Bus} (h : Acts c b b') : K b b' := by
  induction h with
  | refl b => exact L.refl b
  | trans _ _ h1 h2 => exact L.trans _ _ _ h1 h2
  | gate b s a p m => exact L.gate b s a p m
  | forget b d => exact L.forget b d
  | acquire t n flags h => exact L.acquire t c n flags h
  | release t n => exact L.release t c n
  | removeOwner t n => exact L.removeOwner t n c
  | helloOk t m h1 h2 h3 => exact L.helloOk t c m h1 h2 h3
  | addRule b r h1 h2 => exact L.addRule b c r h1 h2
  | removeRule b r rs' h => exact L.removeRule b c r rs' h
  | gcRules b x h => exact L.gcRules b c x h
  | installMonitor b rules => exact L.installMonitor b c rules
  | joinMonitors b x rules => exact L.joinMonitors b c x rules
  | clearRules b => exact L.clearRules b c
  | removeConn b => exact L.removeConn b c

theorem findHandler_handler {tbl : List IfaceRow} {canonical : Bool} {iface : Option Bytes} {name i : Bytes} {row : MethodRow}
    (h : findHandler tbl canonical iface name = .handler i row) :
    (∀ x, iface = some x → x = i) ∧ row.name = name := by
  unfold findHandler findIn at h
  cases hfs : List.findSome? (handlerIn name)
      (tbl.filter fun ih => (canonical || ih.anyPath) && ifaceWanted iface ih.name) with
  | none =>
    rw [hfs] at h
    dsimp only at h
    split at h <;> cases h
  | some pr =>
    rw [hfs] at h
    obtain ⟨i', r'⟩ := pr
    simp only [Found.handler.injEq] at h
    obtain ⟨rfl, rfl⟩ := h
    obtain ⟨ih, hih, hm⟩ := List.exists_of_findSome?_eq_some hfs
    unfold handlerIn at hm
    simp only [Option.map_eq_some_iff, Prod.mk.injEq] at hm
    obtain ⟨r, hr, rfl, rfl⟩ := hm
    have hcand := (List.mem_filter.mp hih).2
    refine ⟨?_, by simpa using List.find?_some hr⟩
    intro x hx
    subst hx
    simp only [Bool.and_eq_true, ifaceWanted, beq_iff_eq] at hcand
    exact hcand.2

theorem methodOf_hello : methodOf BUS_NAME [0x48, 0x65, 0x6c, 0x6c, 0x6f] = .hello := by decide

/-- a method called Hello is the bus's Hello, or - in an interface other than org.freedesktop.DBus - one whose reply is not
    modelled: nothing that needs the caller to be registered -/
theorem methodOf_hello_cases (i : Bytes) :
    methodOf i [0x48, 0x65, 0x6c, 0x6c, 0x6f] = .hello ∨ methodOf i [0x48, 0x65, 0x6c, 0x6c, 0x6f] = .opaqueM := by
  by_cases h : (i == BUS_NAME) = true
  · exact .inl (eq_of_beq h ▸ methodOf_hello)
  · right
    unfold methodOf
    rw [if_neg h, if_neg (by rw [Bool.and_eq_true]; exact fun h => absurd h.2 (by decide)),
      if_neg (by rw [Bool.and_eq_true]; exact fun h => absurd h.2 (by decide))]

theorem isActive_setPending (t : Tx) (p : List Pending) (c : ConnId) : (t.setPending p).bus.isActive c = t.bus.isActive c := rfl

theorem gate_active_or_hello {b : Bus} {c : ConnId} {m : Msg} {p : List Pending}
    (h : checkPolicy b (some c) none none m = (p, none)) : b.isActive c = true ∨ isHello m = true := by
  unfold checkPolicy at h
  split at h
  · cases h
  · dsimp only at h
    cases ha : b.isActive c with
    | true => exact Or.inl rfl
    | false =>
      right
      have hv : ∀ r, policyVerdict b (some c) none none m r = (if isHello m then none else some .accessDenied) := by
        intro r
        unfold policyVerdict
        simp [senderInactive, ha]
      rw [hv] at h
      cases hh : isHello m with
      | true => rfl
      | false => simp [hh] at h

variable {c : ConnId}

theorem step_runMethod (t : Tx) (m : Msg) (w : Method)
    (hact : t.bus.isActive c = true ∨ w = .hello ∨ w = .opaqueM) : Step c Made t (runMethod t c m w).1 := by
  have ha : ∀ {w'}, w = w' → w' ≠ .hello → w' ≠ .opaqueM → t.bus.isActive c = true := by
    rintro _ rfl h1 h2
    exact hact.elim id fun h => h.elim (absurd · h1) (absurd · h2)
  exact runMethod_cases (P := fun t' _ => Step c Made t t') t c m w
    (refused := fun _ => .refl t)
    (answered := fun _ _ _ => step_reply ..)
    (greeting := fun _ => step_hello t m)
    (requested := fun hw _ => (step_acquire t _ _ (ha hw nofun nofun)).trans (step_reply ..))
    (released := fun _ => (step_release t _).trans (step_reply ..))
    (ruleAdded := fun hw r hlim => (Step.state (.addRule t.bus r (ha hw nofun nofun) hlim)).trans (step_reply ..))
    (ruleRemoved := fun r _ hr => (step_reply t c m [] []).trans (Step.state (.removeRule _ r _ (by rw [reply_bus]; exact hr))))
    (monitoring := fun _ => (step_reply t c m [] []).trans (step_beMonitor ..))
    (unmodelled := fun t1 hb ho => ⟨hb ▸ .refl _, ho.elim .same (.one · trivial)⟩)

theorem step_driverHandle (tbl : List IfaceRow) (t : Tx) (m : Msg) (hact : t.bus.isActive c = true ∨ isHello m = true) :
    Step c Made t (driverHandle tbl t c m).1 := by
  refine driverHandle_cases (P := fun r => Step c Made t r.1) tbl t c m (fun _ => .refl t) fun i row hf => step_runMethod t m _ ?_
  refine hact.imp_right fun h => ?_
  have hn : row.name = [0x48, 0x65, 0x6c, 0x6c, 0x6f] := by
    simp only [isHello, Bool.and_eq_true, beq_iff_eq] at h
    rw [(findHandler_handler hf).2, h.2]; rfl
  rw [hn]; exact methodOf_hello_cases i

/-- eavesdroppers are shown the message under the sender's name of afterwards: Hello has assigned it by then -/
theorem step_toDriverCore (tbl : List IfaceRow) (t : Tx) (m : Msg) :
    Step c (OutOK (· = m.setSender (senderNameOf (toDriverCore tbl t c m).1.bus c))) t (toDriverCore tbl t c m).1 := by
  unfold toDriverCore
  have g : Step c Made t (t.setPending (checkPolicy t.bus (some c) none none m).1) := ⟨.gate .., .same rfl⟩
  rcases hcp : checkPolicy t.bus (some c) none none m with ⟨p, _ | e⟩ <;> rw [hcp] at g <;> dsimp only at g ⊢
  · have h1 := step_driverHandle tbl (t.setPending p) m (gate_active_or_hello (b := t.bus) hcp)
    generalize driverHandle tbl (t.setPending p) c m = r at h1 ⊢
    rcases r with ⟨t1, _ | e1⟩ <;> dsimp only at h1 ⊢
    · rw [senderNameOf_core (dispatchMatches_spec ..).1 c]
      exact (g.trans h1).made.trans (step_dispatchMatches ..)
    · exact (g.trans h1).made
  · exact g.made

theorem step_toDriver (tbl : List IfaceRow) (t : Tx) (m : Msg) :
    Step c (OutOK (· = m.setSender (senderNameOf (toDriver tbl t c m).1.bus c))) t (toDriver tbl t c m).1 := by
  have h := step_toDriverCore (c := c) tbl { t with mon := [] } m
  unfold toDriver
  exact ⟨h.bus, h.out⟩

theorem acts_disconnect (b : Bus) (c : ConnId) : Acts c b (disconnect b c).bus :=
  disconnect_cases (P := fun T => Acts c b T.bus) b c (fun _ => .refl b) fun x hx => (step_disconnectTx b x hx).bus

theorem step_dispatch_driver (tbl : List IfaceRow) (b : Bus) (c : ConnId) (m : Msg) :
    Step c (OutOK (· = m.setSender (senderNameOf (toDriver tbl { bus := b } c m).1.bus c))) { bus := b }
      (sweepMonitors (finish (toDriver tbl { bus := b } c m) c m)) :=
  (step_finish _ _ (step_toDriver tbl { bus := b } m)).trans (step_sweepMonitors _).made

theorem step_dispatch_routed (b : Bus) (c : ConnId) (m : Msg) : Step c (OutOK (· = m)) { bus := b } (finish (route { bus := b } c m) c m) :=
  step_finish _ _ (step_route { bus := b } m)

theorem acts_dispatch (tbl : List IfaceRow) (b : Bus) (c : ConnId) (m0 : Msg) : Acts c b (dispatch tbl b c m0).bus :=
  dispatch_cases (P := fun r => Acts c b r.bus) tbl b c m0
    (unknown := fun _ => .refl b)
    (peer := fun _ _ _ _ => .refl b)
    (monitor := fun _ _ _ _ => acts_disconnect b c)
    (builtin := fun _ _ _ _ _ _ => .refl b)
    (driver := fun _ _ _ _ _ _ => (step_dispatch_driver tbl b c _).bus)
    (unnamed := fun _ _ _ _ _ _ _ => acts_disconnect b c)
    (routed := fun _ _ _ _ _ _ _ => (step_dispatch_routed b c _).bus)

theorem lv_step {K : Bus → Bus → Prop} (L : Leaves K) (tbl : List IfaceRow) (b : Bus) (ev : Ev) : K b (step tbl b ev).bus := by
  cases ev with
  | connect c uid gids canFd =>
    exact step_connect_cases (P := fun r => K b r.bus) tbl b c uid gids canFd (fun _ => L.refl b) fun h =>
      L.connect b c uid gids canFd (by rw [h]; rfl)
  | msg c m => exact L.of_acts (acts_dispatch tbl b c m)
  | invalid c => exact step_invalid_bus tbl b c ▸ L.of_acts (acts_disconnect b c)
  | close c => exact L.of_acts (acts_disconnect b c)
  | timeout => exact step_timeout_bus tbl b ▸ L.expire b
  | expire due => exact step_expire_bus tbl b due ▸ L.expireSome b _
  | stall c on => exact L.setFull b _
  | reload p => exact L.setPolicy b p

def keeps (P : Bus → Prop) (b b' : Bus) : Prop := P b → P b'

theorem run_inv {P : Bus → Prop} (tbl : List IfaceRow) (hstep : ∀ b ev, P b → P (step tbl b ev).bus)
    (b : Bus) (evs : List Ev) (h : P b) : P (run tbl b evs).1 :=
  List.foldlRecOn (motive := fun acc : Bus × List (List Out) => P acc.1) evs _ h fun acc hacc ev _ => hstep acc.1 ev hacc

theorem invariant_of_leaves {P : Bus → Prop} (L : Leaves (keeps P)) (tbl : List IfaceRow) (b : Bus) (evs : List Ev)
    (h : P b) : P (run tbl b evs).1 :=
  run_inv tbl (fun b ev hb => lv_step L tbl b ev hb) b evs h

theorem run_cons (tbl : List IfaceRow) (b : Bus) (ev : Ev) (evs : List Ev) :
    run tbl b (ev :: evs) = ((run tbl (step tbl b ev).bus evs).1, (step tbl b ev).out :: (run tbl (step tbl b ev).bus evs).2) :=
  List.foldl_hom (fun a : Bus × List (List Out) => (a.1, (step tbl b ev).out :: a.2)) (init := ((step tbl b ev).bus, []))
    (g₁ := fun a ev => ((step tbl a.1 ev).bus, a.2 ++ [(step tbl a.1 ev).out])) (H := fun _ _ => rfl)

theorem run_snoc (tbl : List IfaceRow) (b : Bus) (evs : List Ev) (ev : Ev) :
    run tbl b (evs ++ [ev]) =
      ((step tbl (run tbl b evs).1 ev).bus, (run tbl b evs).2 ++ [(step tbl (run tbl b evs).1 ev).out]) := by
  unfold run
  rw [List.foldl_append]
  rfl

theorem run_fst (tbl : List IfaceRow) (b : Bus) (evs : List Ev) :
    (run tbl b evs).1 = evs.foldl (fun b ev => (step tbl b ev).bus) b :=
  (List.foldl_hom Prod.fst (H := fun _ _ => rfl)).symm

theorem run_fst_append (tbl : List IfaceRow) (b : Bus) (e1 e2 : List Ev) :
    (run tbl b (e1 ++ e2)).1 = (run tbl (run tbl b e1).1 e2).1 := by
  rw [run_fst, run_fst, run_fst, List.foldl_append]

end Dbus.Proofs.Bus
