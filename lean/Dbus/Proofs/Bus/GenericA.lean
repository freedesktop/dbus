import Dbus.Proofs.Bus.Timed
import Dbus.Proofs.Bus.Generic
/-
  The activation and clock layers add no primitive of their own: they hold messages back, start programs and tell the core which
  entries have timed out, and whatever they do to the core's state they do through the gate, the registry and the driver's sends.
  Hence the leaf induction of `Generic` covers all states reachable with activation and time.
-/
namespace Dbus.Proofs.Bus
open Dbus.Model Dbus.Model.Bus

variable {c : ConnId}

theorem acts_sendPending (x : ATx) (n : Bytes) : Acts c x.t.bus (sendPending x n).t.bus := by
  unfold sendPending
  cases findAct x.acts n with
  | none => exact .refl _
  | some pa =>
    cases x.t.bus.primary? n with
    | none => exact .refl _
    | some owner =>
      -- a held message resumes where `bus_dispatch` left off: `deliverHeld` is `dispatchMatches`, then `finish`
      exact foldl_keeps (R := fun t t' : Tx => Acts c t.bus t'.bus) (fun _ => .refl _) .trans (fun t e =>
        iteInduction (motive := fun r : Tx => Acts c t.bus r.bus) (fun _ => (step_finish _ e.msg (step_dispatchMatches ..)).bus)
          fun _ => .refl _) pa.entries x.t

theorem acts_acquireA (x : ATx) (n : Bytes) (flags : Nat) (hact : x.t.bus.isActive c = true) :
    Acts c x.t.bus (acquireA x c n flags).1.t.bus :=
  acquireA_cases (P := fun r => Acts c x.t.bus r.1.t.bus) x c n flags (fun _ => .refl _) fun _ t' _ ht' =>
    .trans (ht' ▸ .acquire x.t n flags hact) (acts_sendPending { x with t := t' } n)

theorem methodOf_requestName_ne_hello : methodOf BUS_NAME REQUEST_NAME ≠ .hello := by decide

theorem acts_runMethodA (files : List SvcFile) (maxP : Nat) (x : ATx) (m : Msg) (iface name : Bytes)
    (hact : x.t.bus.isActive c = true ∨ name = ([0x48, 0x65, 0x6c, 0x6c, 0x6f] : Bytes)) :
    Acts c x.t.bus (runMethodA files maxP x c m iface name).1.t.bus := by
  unfold runMethodA
  refine iteInduction (motive := fun r : ATx × Option Bytes => Acts c x.t.bus r.1.t.bus) (fun _ => ?_) fun _ =>
    iteInduction (motive := fun r : ATx × Option Bytes => Acts c x.t.bus r.1.t.bus) (fun hreq => ?_) fun _ => ?_
  · rw [activateService_bus]; exact .refl _
  · have ha : x.t.bus.isActive c = true := hact.resolve_right fun hn => by
      simp only [Bool.and_eq_true, beq_iff_eq] at hreq
      exact absurd (hreq.2.symm.trans hn) (by decide)
    have h := acts_acquireA x (arg0 m) (arg1Nat m) ha
    generalize acquireA x c (arg0 m) (arg1Nat m) = r at h ⊢
    rcases r with ⟨x1, e | code⟩ <;> dsimp only at h ⊢
    · exact h
    · rw [reply_bus]; exact h
  · exact (step_runMethod x.t m (methodOf iface name) (hact.imp_right fun (hn : name = _) => hn ▸ methodOf_hello_cases iface)).bus

theorem acts_driverHandleA (tbl : List IfaceRow) (files : List SvcFile) (maxP : Nat) (x : ATx) (m : Msg)
    (hact : x.t.bus.isActive c = true ∨ isHello m = true) : Acts c x.t.bus (driverHandleA tbl files maxP x c m).1.t.bus := by
  refine driverHandleA_cases (P := fun r => Acts c x.t.bus r.1.t.bus) tbl files maxP x c m (fun _ => .refl _)
    fun i row hf => acts_runMethodA files maxP x m i row.name (hact.imp_right fun h => ?_)
  simp only [isHello, Bool.and_eq_true, beq_iff_eq] at h
  rw [(findHandler_handler hf).2, h.2]; rfl

theorem acts_toDriverCoreA (tbl : List IfaceRow) (files : List SvcFile) (maxP : Nat) (x : ATx) (m : Msg) :
    Acts c x.t.bus (toDriverCoreA tbl files maxP x c m).1.t.bus := by
  unfold toDriverCoreA
  have g : Acts c x.t.bus (x.t.setPending (checkPolicy x.t.bus (some c) none none m).1).bus := .gate ..
  rcases hcp : checkPolicy x.t.bus (some c) none none m with ⟨p, _ | e⟩ <;> rw [hcp] at g <;> dsimp only at g ⊢
  · have h1 := acts_driverHandleA tbl files maxP { x with t := x.t.setPending p } m (gate_active_or_hello (b := x.t.bus) hcp)
    generalize driverHandleA tbl files maxP { x with t := x.t.setPending p } c m = r at h1 ⊢
    rcases r with ⟨x1, _ | e1⟩ <;> dsimp only at h1 ⊢
    · exact (g.trans h1).trans (step_dispatchMatches ..).bus
    · exact g.trans h1
  · exact g

theorem acts_dispatchA (tbl : List IfaceRow) (a : ABus) (c : ConnId) (m0 : Msg) : Acts c a.core (dispatchA tbl a c m0).t.bus := by
  refine dispatchA_cases (P := fun r => Acts c a.core r.t.bus) tbl a c m0 (acts_dispatch tbl a.core c m0) ?_ ?_
  · refine .trans ?_ (step_sweepMonitors _).bus
    rw [finishA_bus]
    -- `toDriverA` is `toDriverCoreA` run with `mon := []`
    exact acts_toDriverCoreA tbl a.files a.maxPending { ofCore a { bus := a.core } with t := { bus := a.core, mon := [] } } (stamped a.core c m0)
  · rw [finishA_bus, routeA_bus]
    exact (step_route { bus := a.core } (stamped a.core c m0)).bus

variable {K : Bus → Bus → Prop}

theorem lvA_step (L : Leaves K) (tbl : List IfaceRow) (a : ABus) (ev : AEv) : K a.core (stepA tbl a ev).t.bus :=
  stepA_cases (P := fun r => K a.core r.t.bus) tbl a ev
    (msg := fun c m => L.of_acts (acts_dispatchA tbl a c m))
    (core := lv_step L tbl a.core)
    (idle := L.refl _)
    (failed := fun _ _ => by rw [childFailed_bus]; exact L.refl _)
    (timeout := fun _ => by rw [timedOut_bus]; exact L.refl _)

theorem lvT_step (L : Leaves K) (tbl : List IfaceRow) (t : TBus) (ev : TEv) : K t.a.core (stepT tbl t ev).1.a.core :=
  stepT_inv (P := fun t' => K t.a.core t'.a.core) tbl (fun t' e h => L.trans _ _ _ h (lvA_step L tbl t'.a e)) (fun _ _ h => h)
    t ev (L.refl _)

theorem invariant_of_leaves_T {P : Bus → Prop} (L : Leaves (keeps P)) (tbl : List IfaceRow) (evs : List TEv) (t : TBus)
    (h : P t.a.core) : P (runT tbl t evs).1.a.core :=
  runT_inv (P := fun t => P t.a.core) tbl (fun t e h => lvA_step L tbl t.a e h) (fun _ _ h => h) evs t h

theorem invariant_of_leaves_A {P : Bus → Prop} (L : Leaves (keeps P)) (tbl : List IfaceRow) (evs : List AEv) (a : ABus)
    (h : P a.core) : P (runA tbl a evs).1.core :=
  List.foldlRecOn (motive := fun acc : ABus × List ATx => P acc.1.core) evs _ h fun acc hacc ev _ => lvA_step L tbl acc.1 ev hacc

end Dbus.Proofs.Bus
