import Dbus.Model.Bus.Core
/-
  `uniqueName M m` is `:`, decimal `M`, `.`, decimal `m`.  It can be read back: a decimal has no dot in it, so the text
  splits at the first dot in one way only (`split_unique`), and a decimal determines its number (`dec_inj`, through the
  characters of `Nat.toDigits`).
-/
namespace Dbus.Proofs.Bus
open Dbus.Model.Bus

theorem digit_byte {c : Char} (h : c.isDigit = true) :
    (UInt8.ofNat c.toNat).toNat = c.toNat ∧ 48 ≤ c.toNat ∧ c.toNat ≤ 57 := by
  simp only [Char.isDigit, Bool.and_eq_true, decide_eq_true_eq] at h
  have h1 : (48 : Nat) ≤ c.val.toNat := UInt32.le_iff_toNat_le.mp h.1
  have h2 : c.val.toNat ≤ 57 := UInt32.le_iff_toNat_le.mp h.2
  refine ⟨?_, h1, h2⟩
  simp only [UInt8.toNat_ofNat']
  exact Nat.mod_eq_of_lt (Nat.lt_of_le_of_lt h2 (by decide))

theorem toDigits_isDigit {n : Nat} {c : Char} (hc : c ∈ Nat.toDigits 10 n) : c.isDigit = true :=
  Nat.isDigit_of_mem_toDigits (by decide) (by decide) hc

theorem dec_digits {n : Nat} {b : UInt8} (h : b ∈ dec n) : 48 ≤ b.toNat ∧ b.toNat ≤ 57 := by
  obtain ⟨c, hc, rfl⟩ := List.mem_map.mp h
  have := digit_byte (toDigits_isDigit hc)
  rw [this.1]; exact this.2

theorem dec_chars (n : Nat) : (dec n).map (fun b => Char.ofNat b.toNat) = Nat.toDigits 10 n := by
  rw [dec, List.map_map]
  refine (List.map_congr_left fun c hc => ?_).trans (List.map_id _)
  show Char.ofNat (UInt8.ofNat c.toNat).toNat = c
  rw [(digit_byte (toDigits_isDigit hc)).1, Char.ofNat_toNat]

theorem dec_inj {n n' : Nat} (h : dec n = dec n') : n = n' := by
  have hd := congrArg (List.map fun b => Char.ofNat b.toNat) h
  rw [dec_chars, dec_chars] at hd
  rw [← @Nat.ofDigitChars_ten_toDigits n, hd, Nat.ofDigitChars_ten_toDigits]

theorem split_unique {sep : UInt8} (a a' b b' : Bytes) (h1 : sep ∉ a) (h2 : sep ∉ a')
    (h : a ++ sep :: b = a' ++ sep :: b') : a = a' ∧ b = b' := by
  have key : ∀ (a b : Bytes), sep ∉ a → (a ++ sep :: b).takeWhile (· != sep) = a := fun a b ha => by
    rw [List.takeWhile_append_of_pos fun x hx => bne_iff_ne.mpr fun (e : x = sep) => ha (e ▸ hx),
      List.takeWhile_cons_of_neg (by simp), List.append_nil]
  have ha : a = a' := by rw [← key a b h1, h, key a' b' h2]
  subst ha
  exact ⟨rfl, (List.cons.inj (List.append_cancel_left h)).2⟩

theorem dot_not_in_dec (n : Nat) : (0x2e : UInt8) ∉ dec n :=
  fun h => absurd (dec_digits h).1 (by decide)

/-- **C03**: different counter values give different unique names -/
theorem uniqueName_inj {M m M' m' : Nat} (h : uniqueName M m = uniqueName M' m') : M = M' ∧ m = m' := by
  unfold uniqueName at h
  simp only [List.cons.injEq, true_and] at h
  have := split_unique _ _ _ _ (dot_not_in_dec M) (dot_not_in_dec M') h
  exact ⟨dec_inj this.1, dec_inj this.2⟩

theorem uniqueName_head (M m : Nat) : (uniqueName M m).head? = some 0x3a := rfl

end Dbus.Proofs.Bus
