import Dbus.Model.Syntax
import Dbus.Model.Utf8
/-
  The activation helper's decision (bus/activation-helper.c `run_launch_helper`), with the two
  parsers it rests on: service ("desktop") files (bus/desktop-file.c) and the command-line splitter
  applied to the Exec line (dbus/dbus-shell.c `_dbus_shell_parse_argv`).

  Inputs are what the helper reads: its argument, and for every configured service directory, in
  order, the contents of `<argument>.service` if such a file exists.  The result is either the
  argument vector it executes or the exit status it reports.
-/
namespace Dbus.Model.Helper
open Dbus Dbus.Model

/-! ### dbus-shell.c -/

def BSL : UInt8 := 0x5c
def DQ : UInt8 := 0x22
def SQ : UInt8 := 0x27
def NL : UInt8 := 0x0a
def HASH : UInt8 := 0x23
def SP : UInt8 := 0x20
def TAB : UInt8 := 0x09

/-- `current_quote` of `tokenize_command_line` -/
inductive TQ
  | none | bsl | hash | comment | sq | dq
  deriving DecidableEq, Repr

structure TokSt where
  q : TQ := .none
  quoted : Bool := false          -- an odd number of backslashes immediately before
  cur : Bytes := []               -- current token, reversed
  toks : List Bytes := []         -- finished tokens, reversed
  deriving Repr

def TokSt.delimit (s : TokSt) : TokSt := { s with toks := s.cur.reverse :: s.toks, cur := [] }

def tokChar (s : TokSt) (c : UInt8) : TokSt :=
  let s' : TokSt :=
    match s.q with
    | .bsl => if c == NL then { s with q := .none } else { s with cur := c :: BSL :: s.cur, q := .none }
    | .hash => if c == NL then { s with q := .none } else { s with q := .comment }
    | .comment => if c == NL then { s with q := .none } else s
    | .sq => { s with cur := c :: s.cur, q := if c == SQ then .none else .sq }
    | .dq => { s with cur := c :: s.cur, q := if c == DQ && !s.quoted then .none else .dq }
    | .none =>
      if c == NL then s.delimit
      else if c == SP || c == TAB then (if s.cur.isEmpty then s else s.delimit)
      else if c == SQ then { s with cur := c :: s.cur, q := .sq }
      else if c == DQ then { s with cur := c :: s.cur, q := .dq }
      else if c == HASH then { s with q := .hash }
      else if c == BSL then { s with q := .bsl }
      else { s with cur := c :: s.cur }
  -- a comment swallows its characters: the parity of backslashes is judged on the newline that ends it
  { s' with quoted := if s.q == .hash || s.q == .comment then false else if c == BSL then !s.quoted else false }

/-- `tokenize_command_line`: `none` = "Unclosed quotes in command line" -/
def tokenize (cmd : Bytes) : Option (List Bytes) :=
  let s := (cmd.foldl tokChar {}).delimit
  if s.q == .none || s.q == .comment then some s.toks.reverse else none

inductive UQ
  | plain | esc | dq | dqEsc | sq

/-- `_dbus_shell_unquote`: `none` when a quotation never ends -/
def unq : UQ → Bytes → Bytes → Option Bytes
  | .plain, [], acc => some acc.reverse
  | .plain, c :: r, acc =>
    if c == BSL then unq .esc r acc else if c == DQ then unq .dq r acc else if c == SQ then unq .sq r acc
    else unq .plain r (c :: acc)
  | .esc, [], acc => some acc.reverse
  | .esc, c :: r, acc => unq .plain r (if c == NL then acc else c :: acc)
  | .dq, [], _ => none
  | .dq, c :: r, acc =>
    if c == DQ then unq .plain r acc else if c == BSL then unq .dqEsc r acc else unq .dq r (c :: acc)
  | .dqEsc, [], _ => none
  | .dqEsc, c :: r, acc =>
    if c == DQ || c == BSL || c == 0x60 || c == 0x24 || c == NL then unq .dq r (c :: acc)
    else unq .dq r (c :: BSL :: acc)          -- not an escape: the backslash stays, the character is ordinary
  | .sq, [], _ => none
  | .sq, c :: r, acc => if c == SQ then unq .plain r acc else unq .sq r (c :: acc)

def unquote (w : Bytes) : Option Bytes := unq .plain w []

inductive Argv
  | ok (argv : List Bytes)
  | invalidArgs           -- unclosed quotes
  | noMemory              -- a word that cannot be unquoted is reported as out of memory
  deriving Repr

def allSome : List (Option Bytes) → Option (List Bytes)
  | [] => some []
  | none :: _ => none
  | some x :: r => (allSome r).map (x :: ·)

/-- `_dbus_shell_parse_argv` -/
def parseArgv (cmd : Bytes) : Argv :=
  match tokenize cmd with
  | none => .invalidArgs
  | some toks =>
    match allSome (toks.map unquote) with
    | some argv => .ok argv
    | none => .noMemory

/-! ### bus/desktop-file.c -/

structure DLine where
  key : Bytes
  value : Bytes
  deriving Repr, DecidableEq

structure DSection where
  name : Bytes
  lines : List DLine
  deriving Repr, DecidableEq

abbrev DFile := List DSection

/-- `_dbus_string_find_eol`: the line and what follows its end-of-line ("\r\n", "\n" or "\r") -/
def splitLine : Bytes → Bytes × Bytes
  | [] => ([], [])
  | c :: r =>
    if c == 0x0d then (match r with | 0x0a :: r' => ([], r') | _ => ([], r))
    else if c == NL then ([], r)
    else let p := splitLine r; (c :: p.1, p.2)

theorem splitLine_le (bs : Bytes) : (splitLine bs).2.length ≤ bs.length := by
  fun_induction splitLine bs with
  | case1 => exact Nat.le_refl _
  | case2 c _ r' => exact Nat.le_add_right r'.length 2
  | case3 | case4 => exact Nat.le_succ _
  | case5 c r _ _ p ih => exact Nat.le_succ_of_le ih

/-- `is_blank_line`: only blanks up to the next "\n" (a lone "\r" does not end the scan) -/
def isBlank : Bytes → Bool
  | [] => true
  | c :: r => if c == NL then true else if c == SP || c == TAB || c == 0x0d || c == 0x0c then isBlank r else false

/-- bit `VALID_KEY_CHAR` of the `valid` table: letters, digits and "-" -/
def keyChar (c : UInt8) : Bool :=
  (0x41 ≤ c && c ≤ 0x5a) || (0x61 ≤ c && c ≤ 0x7a) || (0x30 ≤ c && c ≤ 0x39) || c == 0x2d

def sectionNameOk (n : Bytes) : Bool := n.all fun c => !(c ≤ 0x1f || c ≥ 0x7f || c == 0x5b || c == 0x5d)

/-- `unescape_string` -/
def unescape : Bytes → Option Bytes
  | [] => some []
  | c :: r =>
    if c == 0 then none
    else if c == BSL then
      match r with
      | [] => none
      | e :: r' =>
        let out : Option UInt8 :=
          if e == 0x73 then some SP else if e == 0x74 then some TAB else if e == 0x6e then some NL
          else if e == 0x72 then some 0x0d else if e == BSL then some BSL else none
        match out, unescape r' with
        | some x, some rest => some (x :: rest)
        | _, _ => none
    else (unescape r).map (c :: ·)

inductive KV
  | line (l : DLine)
  | localized           -- `Key[locale]=…`: ignored
  | bad

/-- `parse_key_value` on one line -/
def parseKeyValue (line : Bytes) : KV :=
  let key := line.takeWhile keyChar
  let r := line.dropWhile keyChar
  if key.isEmpty then .bad
  else if r.head? == some 0x5b then .localized
  else
    let r := r.dropWhile (· == SP)
    match r with
    | [] => .bad                         -- no '='
    | c :: r' =>
      if c != 0x3d then .bad             -- invalid characters in key name
      else
        match unescape (r'.dropWhile (· == SP)) with
        | some v => .line { key := key, value := v }
        | none => .bad

def addLine (f : DFile) (l : DLine) : DFile :=
  match f.reverse with
  | [] => f
  | s :: rest => (({ s with lines := s.lines ++ [l] } : DSection) :: rest).reverse

/-- the main loop of `bus_desktop_file_load` (fuel: one line is consumed per turn) -/
def parseLoop : Nat → Bytes → DFile → Option DFile
  | 0, _, _ => none
  | fuel + 1, bs, f =>
    match bs with
    | [] => some f
    | c :: _ =>
      let line := (splitLine bs).1
      let rest := (splitLine bs).2
      if c == 0x5b then
        if line.length ≤ 2 || line.getLast? != some 0x5d then none
        else
          let name := (line.drop 1).dropLast
          if !sectionNameOk name then none
          else parseLoop fuel rest (f ++ [{ name := name, lines := [] }])
      else if isBlank bs || c == HASH then parseLoop fuel rest f
      else if f.isEmpty then none
      else
        match parseKeyValue line with
        | .bad => none
        | .localized => parseLoop fuel rest f
        | .line l => parseLoop fuel rest (addLine f l)

def MAX_FILE : Nat := 128 * 1024

/-- `bus_desktop_file_load` on the file's contents -/
def loadDesktop (data : Bytes) : Option DFile :=
  if data.length > MAX_FILE then none
  else if !validateUtf8 data then none
  else parseLoop (data.length + 1) data []

def SERVICE_SECTION : Bytes := "D-BUS Service".toUTF8.toList
def KEY_NAME : Bytes := "Name".toUTF8.toList
def KEY_EXEC : Bytes := "Exec".toUTF8.toList
def KEY_USER : Bytes := "User".toUTF8.toList

/-- `bus_desktop_file_get_string`: first section of that name, first line with that key -/
def getString (f : DFile) (sect key : Bytes) : Option Bytes :=
  match f.find? (·.name == sect) with
  | none => none
  | some s => (s.lines.find? (·.key == key)).map (·.value)

/-! ### activation-helper.c -/

inductive Outcome
  | exec (argv : List Bytes)
  | exit (code : Nat)
  deriving Repr

def EXIT_GENERIC := 1
def EXIT_NO_MEMORY := 2
def EXIT_NAME_INVALID := 5
def EXIT_NOT_FOUND := 6
def EXIT_FILE_INVALID := 8
def EXIT_INVALID_ARGS := 10

/-- `desktop_file_for_name`: the first directory whose `<name>.service` exists and loads -/
def firstLoadable : List (Option Bytes) → Option DFile
  | [] => none
  | none :: rest => firstLoadable rest
  | some data :: rest =>
    match loadDesktop data with
    | some f => some f
    | none => firstLoadable rest

/-- `run_launch_helper` (test build: no user switch): `dirs` holds, per configured service directory
    in order, the contents of `<name>.service` there, if any -/
def run (name : Bytes) (dirs : List (Option Bytes)) : Outcome :=
  if !validateBusName name then .exit EXIT_NAME_INVALID
  else
    match firstLoadable dirs with
    | none => .exit EXIT_NOT_FOUND
    | some f =>
      match getString f SERVICE_SECTION KEY_NAME with
      | none => .exit EXIT_GENERIC
      | some n =>
        if n != name then .exit EXIT_FILE_INVALID
        else
          match getString f SERVICE_SECTION KEY_EXEC, getString f SERVICE_SECTION KEY_USER with
          | some e, some _ =>
            match parseArgv e with
            | .ok argv => .exec argv
            | .invalidArgs => .exit EXIT_INVALID_ARGS
            | .noMemory => .exit EXIT_NO_MEMORY
          | _, _ => .exit EXIT_GENERIC

end Dbus.Model.Helper
