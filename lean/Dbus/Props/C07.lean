import Dbus.Model.Bus.Core
import Dbus.Proofs.MatchGrammar
import Dbus.Props.C16
/-
  C07 — broadcasts reach exactly the connections whose match rules match.
  Part 1: the rule grammar and the per-key matching semantics (pure functions).
-/
namespace Dbus.Props.C07
open Dbus.Spec Dbus.Model.Bus

/-- **Quoting**: a value without apostrophes written between apostrophes is read back
    verbatim — commas, backslashes and spaces included — and the text after the following
    comma is what remains. -/
theorem quoted_value_roundtrip (v rest : Bytes) (h : ∀ c ∈ v, c ≠ 0x27) :
    findValue (0x27 :: (v ++ 0x27 :: 0x2c :: rest)) = some (v, rest) :=
  (Proofs.MatchGrammar.findValue_iff _ _ _).2 (by
    simpa [MatchGrammar.written, MatchGrammar.Seg.written, MatchGrammar.meaning, MatchGrammar.Seg.meaning]
      using Proofs.MatchGrammar.Reads.comma (segs := [.quoted v]) (List.forall_mem_singleton.2 h) rest)

/-- an apostrophe left open is an error (MatchRuleInvalid) -/
theorem unbalanced_quote_rejected (v : Bytes) (h : ∀ c ∈ v, c ≠ 0x27) :
    findValue (0x27 :: v) = none := by
  have := Proofs.MatchGrammar.findValueAux_verbatim v [] [] h
  simpa [findValue, findValueAux] using this

/-! ### per-key validation: whatever AddMatch accepts has valid components (C16 predicates) -/

/-- the shape of the keys that may be given once and whose value is checked -/
theorem setOnce_eq_some {α β} {cur : Option α} {ok : Bool} {x r' : β} :
    (if cur.isSome then none else if ok then some x else none) = some r' ↔
      cur = none ∧ ok = true ∧ x = r' := by
  cases cur <;> cases ok <;> simp

theorem applyToken_interface (r r' : MatchRule) (v : Bytes)
    (h : applyToken r (([0x69, 0x6e, 0x74, 0x65, 0x72, 0x66, 0x61, 0x63, 0x65] : Bytes)) v = some r') :
    SpecInterface v ∧ r.iface = none ∧ r'.iface = some v := by
  unfold applyToken at h
  rw [if_neg (by decide), if_neg (by decide), if_pos rfl] at h
  obtain ⟨hn, hv, rfl⟩ := setOnce_eq_some.1 h
  exact ⟨(Props.C16.validateInterface_iff v).1 hv, hn, rfl⟩

theorem applyToken_member (r r' : MatchRule) (v : Bytes)
    (h : applyToken r (([0x6d, 0x65, 0x6d, 0x62, 0x65, 0x72] : Bytes)) v = some r') :
    SpecMember v ∧ r.member = none ∧ r'.member = some v := by
  unfold applyToken at h
  rw [if_neg (by decide), if_neg (by decide), if_neg (by decide), if_pos rfl] at h
  obtain ⟨hn, hv, rfl⟩ := setOnce_eq_some.1 h
  exact ⟨(Props.C16.validateMember_iff v).1 hv, hn, rfl⟩

/-- a key that is already set makes the rule invalid ("specified twice") -/
theorem duplicate_interface_rejected (r : MatchRule) (v : Bytes) (h : r.iface.isSome = true) :
    applyToken r (([0x69, 0x6e, 0x74, 0x65, 0x72, 0x66, 0x61, 0x63, 0x65] : Bytes)) v = none := by
  cases h' : applyToken r _ v with
  | none => rfl
  | some r' => rw [(applyToken_interface r r' v h').2.1] at h; cases h

theorem unknown_key_rejected (r : MatchRule) (v : Bytes) :
    applyToken r ([0x66, 0x6f, 0x6f] : Bytes) v = none := by
  unfold applyToken
  simp (config := { decide := true })

/-- rules longer than 1024 bytes are refused as a limit, not parsed -/
theorem too_long_rejected (t : Bytes) (h : t.length > 1024) :
    (match parseRule t with | .tooLong => true | _ => false) = true := by
  unfold parseRule
  rw [if_pos h]

/-- **path_namespace**: matches the path itself and everything below it on a '/' boundary;
    '/' matches every path. -/
theorem path_namespace_semantics (r : MatchRule) (c : MatchCtx) (p mp : Bytes)
    (hr : r.path = some p) (hns : r.pathNs = true) (hc : c.path = some mp) :
    pathOK r c = true ↔
      (p.isPrefixOf mp = true ∧ (p.length ≤ 1 ∨ mp.length = p.length ∨ mp[p.length]? = some 0x2f)) := by
  unfold pathOK
  rw [hr, hc]
  simp only [hns, Bool.not_true, Bool.false_eq_true, if_false]
  by_cases hp : p.isPrefixOf mp = true
  · have hle : p.length ≤ mp.length := (List.isPrefixOf_iff_prefix.1 hp).length_le
    cases hm : mp[p.length]? with
    | none =>
      have := List.getElem?_eq_none_iff.1 hm
      simp [hp]; omega
    | some ch =>
      have := (List.getElem?_eq_some_iff.1 hm).1
      simp [hp, Nat.ne_of_gt this]
  · simp [hp]

/-- **argN** (plain): exact equality with a string argument; never matches a non-string or a
    missing argument -/
theorem arg_plain_semantics (expected : Bytes) (actual : Option (Bool × Bytes)) :
    argMatches .plain expected actual = true ↔ actual = some (false, expected) := by
  unfold argMatches
  cases actual with
  | none => simp
  | some a =>
    obtain ⟨isPath, act⟩ := a
    cases isPath
    · simp
    · simp

/-- **arg0namespace**: the argument equals the namespace or continues it after a '.' -/
theorem arg_namespace_semantics (expected act : Bytes) :
    argMatches .ns expected (some (false, act)) = true ↔
      (expected = act.take expected.length ∧ expected.length ≤ act.length ∧
        (act.length = expected.length ∨ act[expected.length]? = some 0x2e)) := by
  unfold argMatches
  rcases Nat.lt_trichotomy act.length expected.length with h | h | h
  · simp [h]; omega
  · simp [h]
  · simp [h, Nat.lt_asymm h, Nat.le_of_lt h, Nat.ne_of_gt h]

/-- **argNpath**: equal, or one is a '/'-terminated prefix of the other; an empty value or
    argument only matches an empty one (in particular the matcher looks at no character that
    does not exist — the repaired F5) -/
theorem arg_path_semantics (expected act : Bytes) (isPath : Bool) :
    argMatches .path expected (some (isPath, act)) = true ↔
      (act = expected ∨
       (act.length < expected.length ∧ act.getLast? = some 0x2f ∧ act = expected.take act.length) ∨
       (expected.length < act.length ∧ expected.getLast? = some 0x2f ∧ expected = act.take expected.length)) := by
  unfold argMatches
  have hne : act.length ≠ expected.length → act ≠ expected := fun h e => h (e ▸ rfl)
  rcases Nat.lt_trichotomy act.length expected.length with h | h | h
  · simp [h, Nat.lt_asymm h, hne (Nat.ne_of_lt h)]
  · simp [h]
  · simp [h, Nat.lt_asymm h, hne (Nat.ne_of_gt h)]

/-- a rule without `eavesdrop='true'` never matches a message that names a destination, and a
    rule naming a destination matches only when it is the (owned) destination and
    eavesdropping was asked for -/
theorem unicast_needs_eavesdrop (r : MatchRule) (c : MatchCtx) (d : Bytes)
    (hd : c.dest = some d) (he : r.eavesdrop = false) : destOK r c = false := by
  unfold destOK
  cases hr : r.dest with
  | none => simp [he, hd]
  | some x => simp [hd, he]

/-! ### AddMatch accepts exactly the rule strings of the specified grammar and quoting

  `Spec/MatchGrammar.lean` *generates* rule texts together with their meaning (items, pieces of a
  value, apostrophes, backslashes); the tokenizer *scans*. The two agree on every text. -/

open Dbus.Spec.MatchGrammar in
/-- **The tokenizer accepts exactly the grammar, with the tokenizer's bound in it**: `tokenize_rule`
    succeeds on a text and yields the pairs `kvs` iff the text is a rule text with these pairs in
    which at most 16 items are read (whatever follows the comma after a sixteenth item is not
    looked at — `RuleTextN.cut`). Every text, every quoting form. -/
theorem tokenize_iff_bounded_grammar (s : Bytes) (kvs : List (Bytes × Bytes)) :
    tokenize s = some kvs ↔ RuleTextN 16 s kvs := by
  unfold tokenize
  constructor
  · intro h
    obtain ⟨k, rfl, hr⟩ := Proofs.MatchGrammar.ruleTextN_of_tokenizeAux 16 _ _ _ _ rfl h
    exact hr
  · intro h
    simpa [MAX_RULE_TOKENS] using Proofs.MatchGrammar.tokenizeAux_of_ruleTextN h []

open Dbus.Spec.MatchGrammar in
/-- every text of the grammar with at most sixteen items is accepted and read as it means -/
theorem tokenize_complete (s : Bytes) (kvs : List (Bytes × Bytes)) (h : RuleText s kvs)
    (hn : kvs.length ≤ 16) : tokenize s = some kvs :=
  (tokenize_iff_bounded_grammar s kvs).2 (Proofs.MatchGrammar.ruleTextN_of_ruleText h 16 hn)

open Dbus.Spec.MatchGrammar in
/-- whatever the tokenizer accepts with fewer than sixteen items is a text of the grammar, and
    the pairs are its meaning; with sixteen, the text up to the sixteenth item is -/
theorem tokenize_sound (s : Bytes) (kvs : List (Bytes × Bytes)) (h : tokenize s = some kvs) :
    kvs.length ≤ 16 ∧ (kvs.length < 16 → RuleText s kvs) :=
  ⟨Proofs.MatchGrammar.ruleTextN_length ((tokenize_iff_bounded_grammar s kvs).1 h),
   Proofs.MatchGrammar.ruleText_of_ruleTextN ((tokenize_iff_bounded_grammar s kvs).1 h)⟩

open Dbus.Spec.MatchGrammar in
/-- **AddMatch's verdict**: a text of at most 1024 bytes is accepted iff it is a rule text (≤ 16
    items read) every one of whose items is acceptable to the per-key checks, taken in order
    (known key, valid value for the key, no key twice, argument index ≤ 63) -/
theorem parse_accepts_iff (s : Bytes) (hl : s.length ≤ 1024) :
    (∃ r, parseRule s = .ok r) ↔
      ∃ kvs r, RuleTextN 16 s kvs ∧
        kvs.foldlM (fun r (kv : Bytes × Bytes) => applyToken r kv.1 kv.2) ({} : MatchRule) = some r := by
  unfold parseRule
  rw [if_neg (by omega)]
  -- with the grammar read as `tokenize`, both sides ask for the same two successes
  simp only [← tokenize_iff_bounded_grammar]
  cases tokenize s with
  | none => simp
  | some kvs =>
    cases hf : kvs.foldlM (fun r (kv : Bytes × Bytes) => applyToken r kv.1 kv.2) ({} : MatchRule) <;>
      simp [hf]

open Dbus.Spec.MatchGrammar in
/-- non-vacuity: `k='a,b', m=\'` is a rule text; the first value reads `a,b`, the second `'` -/
example : RuleText ([0x6b, 0x3d, 0x27, 0x61, 0x2c, 0x62, 0x27, 0x2c, 0x20, 0x6d, 0x3d, 0x5c, 0x27] : Bytes)
    [([0x6b], [0x61, 0x2c, 0x62]), ([0x6d], [0x27])] := by
  have h1 : Item.WF ⟨[], [0x6b], [], [.quoted [0x61, 0x2c, 0x62]]⟩ := by
    unfold Item.WF White
    refine ⟨by decide, by decide, by decide, by decide, List.forall_mem_singleton.2 ?_⟩
    unfold Seg.WF; decide
  have h2 : Item.WF ⟨[0x20], [0x6d], [], [.escApos]⟩ := by
    unfold Item.WF White
    exact ⟨by decide, by decide, by decide, by decide, List.forall_mem_singleton.2 trivial⟩
  exact RuleText.more _ h1 _ _ (RuleText.last _ false h2)

/-- …and the tokenizer reads it so -/
example : tokenize ([0x6b, 0x3d, 0x27, 0x61, 0x2c, 0x62, 0x27, 0x2c, 0x20, 0x6d, 0x3d, 0x5c, 0x27] : Bytes)
    = some [([0x6b], [0x61, 0x2c, 0x62]), ([0x6d], [0x27])] := by decide +kernel

/-- the bound is real (and the reason the quantifier says "up to the per-rule key limits"): of
    seventeen items the seventeenth is not read — here (`a=,b=,…,p=,=junk'`) it is not even a
    well-formed item -/
example : (tokenize ([0x61, 0x3d, 0x2c, 0x62, 0x3d, 0x2c, 0x63, 0x3d, 0x2c, 0x64, 0x3d, 0x2c, 0x65, 0x3d, 0x2c, 0x66, 0x3d, 0x2c, 0x67, 0x3d, 0x2c, 0x68, 0x3d, 0x2c, 0x69, 0x3d, 0x2c, 0x6a, 0x3d, 0x2c, 0x6b, 0x3d, 0x2c, 0x6c, 0x3d, 0x2c, 0x6d, 0x3d, 0x2c, 0x6e, 0x3d, 0x2c, 0x6f, 0x3d, 0x2c, 0x70, 0x3d, 0x2c, 0x3d, 0x6a, 0x75, 0x6e, 0x6b, 0x27] : Bytes)).map List.length = some 16 := by
  decide +kernel

/-! ### RemoveMatch removes one rule equal to its argument, or fails -/

theorem findIdx?_split {α} (p : α → Bool) (l : List α) (i : Nat) (h : l.findIdx? p = some i) :
    ∃ a x b, l = a ++ x :: b ∧ p x = true ∧ (∀ y ∈ a, p y = false) ∧ l.eraseIdx i = a ++ b := by
  obtain ⟨hi, hp, hlt⟩ := List.findIdx?_eq_some_iff_getElem.1 h
  refine ⟨l.take i, l[i], l.drop (i + 1), ?_, hp, fun y hy => ?_, List.eraseIdx_eq_take_drop_succ l i⟩
  · rw [← List.drop_eq_getElem_cons hi, List.take_append_drop]
  · obtain ⟨j, hj, rfl⟩ := List.mem_take_iff_getElem.1 hy
    simpa using hlt j (by omega)

/-- **RemoveMatch succeeds**: exactly one rule goes — one that equals the argument, the most
    recently added such — and every other rule stays, in order -/
theorem remove_removes_one (rs rs' : List MatchRule) (r : MatchRule) (h : removeRule rs r = some rs') :
    ∃ pre x post, rs = pre ++ x :: post ∧ ruleEqual x r = true ∧
      (∀ y ∈ post, ruleEqual y r = false) ∧ rs' = pre ++ post := by
  unfold removeRule at h
  cases hf : rs.reverse.findIdx? (fun x => ruleEqual x r) with
  | none => rw [hf] at h; cases h
  | some i =>
    rw [hf] at h
    simp only [Option.some.injEq] at h
    obtain ⟨a, x, b, hl, hx, ha, he⟩ := findIdx?_split _ rs.reverse i hf
    refine ⟨b.reverse, x, a.reverse, ?_, hx, ?_, ?_⟩
    · have := congrArg List.reverse hl
      simpa using this
    · intro y hy; exact ha y (by simpa using hy)
    · rw [← h, he]; simp

/-- **RemoveMatch fails** (MatchRuleNotFound, nothing changes) exactly when the connection holds
    no rule equal to the argument -/
theorem remove_fails_iff (rs : List MatchRule) (r : MatchRule) :
    removeRule rs r = none ↔ ∀ y ∈ rs, ruleEqual y r = false := by
  unfold removeRule
  have h : (∀ y ∈ rs, ruleEqual y r = false) ↔
      rs.reverse.findIdx? (fun x => ruleEqual x r) = none := by
    simp [List.findIdx?_eq_none_iff]
  rw [h]
  cases rs.reverse.findIdx? (fun x => ruleEqual x r) <;> simp

/-- a rule just added is found by RemoveMatch of an equal rule (`ruleEqual` is reflexive on it) -/
theorem remove_after_add (rs : List MatchRule) (r : MatchRule) (hr : ruleEqual r r = true) :
    removeRule (rs ++ [r]) r = some rs := by
  unfold removeRule
  -- the rules are searched from the end, where `r` stands
  simp [List.findIdx?_cons, hr]

end Dbus.Props.C07
