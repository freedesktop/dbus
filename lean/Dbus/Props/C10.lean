import Dbus.Proofs.Bus.Raw
import Dbus.Proofs.Bus.Accept
import Dbus.Proofs.Bus.Services
import Dbus.Props.C13
/-
  C10 — one misbehaving client cannot crash, corrupt or stall the bus.

  What a theorem can carry of this property is the logic between the sockets and the bus core;
  crashes, memory safety, spinning and latency are observations of the sanitizer-built daemon under
  the generated hostile histories of the correspondence check (see DESIGN.md), not theorems.
-/
namespace Dbus.Props.C10
open Dbus.Model Dbus.Model.Bus Dbus.Proofs.Bus Dbus.Proofs.Loader

/-- **Whatever bytes clients write, in whatever chunks, the bus core goes through an ordinary history of
    events** (`netEvents`): every theorem proved for all event histories (C03, C04, C05, C06, C07, C09, C13,
    C18) therefore holds under hostile input as well. -/
theorem hostile_history_is_event_history (tbl : List IfaceRow) (n : Net) (ops : List NetOp) :
    (netRun tbl n ops).bus = (run tbl n.bus (netEvents tbl n ops)).1 := by
  induction ops generalizing n with
  | nil => rfl
  | cons op ops ih =>
    simp only [netRun, netEvents]
    rw [ih, run_fst_append]
    congr 1
    simp only [netStep]
    rw [steps_fst]

/-- **Only validated messages reach the core**: every message event of such a history passed the loader's
    validation (the function C01 proves equivalent to the wire specification); everything else a client writes
    shows up as at most one `invalid` event. -/
theorem only_validated_messages_reach_the_core (tbl : List IfaceRow) (l : Limits) (p : Policy) (mx : Nat)
    (ops : List NetOp) :
    ∀ ev ∈ netEvents tbl { bus := { limits := l, policy := p }, maxMsg := mx } ops, ∀ c m, ev = .msg c m →
      ∃ mx' fds bs k, loadOne true mx' fds bs = .ok m k :=
  netEvents_loaded tbl _ ops (by intro q hq; cases hq)

/-- **A corrupt stream is silenced**: once a connection's stream has been found invalid, nothing it writes
    afterwards produces any event. -/
theorem corrupt_stream_is_silenced (n : Net) (c : ConnId) (bytes : Bytes) (h : (n.loader c).corrupted = true) :
    (NetOp.write c bytes).events n = [] := by
  simp only [NetOp.events, readEvents]
  rw [feed_corrupted n.maxMsg _ _ h]; simp [h]

/-- **The invalid bytes themselves go nowhere**: what a write contributes is the messages framed before the
    corruption point and the `invalid` event; the event carries no content. The messages framed are those
    of the byte stream as a whole, independent of chunking (C11). -/
theorem write_contributes_framed_messages_only (n : Net) (c : ConnId) (bytes : Bytes) :
    ∃ more, ((n.loader c).feed n.maxMsg bytes).msgs = (n.loader c).msgs ++ more ∧
      ((NetOp.write c bytes).events n = more.map (Ev.msg c) ∨
       (NetOp.write c bytes).events n = more.map (Ev.msg c) ++ [Ev.invalid c]) := by
  obtain ⟨more, hm⟩ := feed_msgs_prefix n.maxMsg (n.loader c) bytes
  refine ⟨more, hm, ?_⟩
  simp only [NetOp.events, readEvents, hm, List.drop_left']
  split
  · exact Or.inr rfl
  · exact Or.inl (by simp)

/-- **Invalid input costs only its sender the connection**: every other connection is still there afterwards,
    under the same name; and every message the bus sends out on that occasion is of its own making (the
    signals and errors of a disconnect), never anything derived from the offending bytes. -/
theorem invalid_input_drops_only_its_sender (tbl : List IfaceRow) (b : Bus) (c : ConnId) :
    (∀ p ∈ names b, p.1 ≠ c → p ∈ names (step tbl b (.invalid c)).1) ∧
    (∀ o ∈ (step tbl b (.invalid c)).out, match o with | .deliver _ x => BusMade x | _ => True) := by
  refine ⟨Dbus.Props.C13.oversized_only_sender_dropped tbl b c, ?_⟩
  intro o ho
  simp only [step] at ho
  split at ho
  · cases ho
  · exact Made.busMade (dropConn_outputs b c o ho)

/-- **The bus's bookkeeping survives**: after any history of socket operations — valid traffic, garbage,
    truncated and oversized messages, abrupt closes, in any interleaving — unique names are still unique and
    never reused, owner queues are well-formed, and every limit is respected. -/
theorem bookkeeping_survives_hostile_input (tbl : List IfaceRow) (l : Limits) (p : Policy) (mx : Nat) (ops : List NetOp) :
    let b := (netRun tbl { bus := { limits := l, policy := p }, maxMsg := mx } ops).bus
    NamesInv b ∧ ServicesInv b ∧ LimitsInv b := by
  intro b
  have hb : b = (run tbl { limits := l, policy := p } (netEvents tbl { bus := { limits := l, policy := p }, maxMsg := mx } ops)).1 :=
    hostile_history_is_event_history tbl _ ops
  rw [hb]
  exact ⟨namesInv_run tbl l p _, servicesInv_run tbl l p _, limitsInv_run tbl l p _⟩

/-- **A bystander is always answered**: in every state, however reached, a connected client's
    destination-less org.freedesktop.DBus.Peer call is answered at once, to that client only, and leaves
    the bus as it was.  (The correspondence check uses exactly this call on every connection after every
    hostile operation, so the theorem's statement is compared with the daemon's behaviour throughout.) -/
theorem bystander_ping_is_answered (tbl : List IfaceRow) (b : Bus) (c : ConnId) (m : Msg)
    (hc : (b.conn? c).isSome) (hd : (strip m).dest = none) (hi : (strip m).iface = some PEER_IFACE) :
    step tbl b (.msg c m) = { bus := b, out := [Out.deliver c (peerFilterReply (strip m))] } := by
  obtain ⟨x, hx⟩ := Option.isSome_iff_exists.mp hc
  exact dispatch_peer tbl hx (by simp [hd, hi])

open Dbus.Model.Accept Dbus.Proofs.Accept in
/-- **Unauthenticated connections are bounded and cannot lock others out for good**: in every state
    reachable by clients arriving, completing their handshake and going away (closing, being dropped, timing
    out), at most `max` connections are incomplete, the bus listens exactly while there is room, and nobody
    is left waiting in the accept queue while there is room. -/
theorem incomplete_connections_bounded_and_fair (max : Nat) (h : 0 < max) (evs : List Accept.Ev) :
    let a := ({ max := max } : Acc).run evs
    a.incomplete.length ≤ max ∧ (a.enabled = true ↔ a.incomplete.length < max) ∧
    (a.incomplete.length < max → a.backlog = []) := by
  intro a
  have hi : Inv a := run_inv _ evs (init_inv max h)
  have hm : a.max = max := run_max _ evs
  refine ⟨hm ▸ hi.bound, ?_, fun hlt => hi.served (hm ▸ hlt)⟩
  rw [hi.flag, hm]; simp

/-- once everybody incomplete has gone, a waiting client has been accepted -/
example : (({ max := 2 } : Accept.Acc).run [.arrive 1, .arrive 2, .arrive 3, .gone 1]).incomplete = [2, 3] ∧
    (({ max := 2 } : Accept.Acc).run [.arrive 1, .arrive 2, .arrive 3]).backlog = [3] ∧
    (({ max := 2 } : Accept.Acc).run [.arrive 1, .arrive 2, .arrive 3]).enabled = false := by decide

end Dbus.Props.C10
