import Dbus.Model.Bus.Oom
import Dbus.Proofs.Bus.Registry
/-
  C14 — out-of-memory at any point leaves state unchanged and leaks nothing.

  What is proved: (1) the contract the bus model offers for a request that runs out of memory
  (`stepOom`: the state is untouched, the caller gets exactly one NoMemory error carrying its serial),
  which the C14 check compares with the real bus for every failing allocation; (2) the mechanism that
  is to deliver it for name ownership — eager queue edits plus undo hooks run newest first — restores
  the owner queue exactly, for every sequence of hooked edits, on every well-formed queue; and the
  edits that register no hook (recorded findings F22, F23) do not.
-/
namespace Dbus.Props.C14
open Dbus.Model Dbus.Model.Bus Dbus.Proofs.Bus

/-- **All or nothing, the nothing half**: a request that runs out of memory leaves the bus exactly as
    it was and produces one message, to the caller: an error named NoMemory, from the bus, in reply to
    the request's serial. -/
theorem oom_changes_nothing (b : Bus) (c : ConnId) (m : Msg) (x : Conn) (hx : b.conn? c = some x) :
    (stepOom b c m).bus = b ∧ (stepOom b c m).out = [.deliver c (oomReply (strip m))] ∧
    (oomReply (strip m)).mtype = 3 ∧ (oomReply (strip m)).errName = some ERR_NO_MEMORY ∧
    (oomReply (strip m)).sender = some BUS_NAME ∧ (oomReply (strip m)).replySerial = (strip m).serial := by
  unfold stepOom
  rw [hx]
  exact ⟨rfl, rfl, rfl, rfl, rfl, rfl⟩

/-- `strip` keeps the serial: the error answers the request as the client numbered it -/
theorem strip_serial (m : Msg) : (strip m).serial = m.serial := rfl

/-- a queue holds each connection at most once -/
def QWF (q : List Owner) : Prop := (q.map (·.conn)).Nodup

/-- **the cancel hook of `bus_service_add_owner` is a left inverse**: taking a newly added owner out
    again gives back the queue as it was, wherever the owner had been put -/
theorem undo_addOwner (q : List Owner) (c : ConnId) (flags : Nat) (hc : c ∉ q.map (·.conn)) :
    undo (qAdd q c flags).1 (.cancelOwnership c) = q := by
  obtain ⟨l₁, l₂, rfl, h⟩ := qAdd_new q c flags hc
  rw [List.map_append, List.mem_append, not_or] at hc
  simp [undo, h, filter_ne_of_not_mem hc.1, filter_ne_of_not_mem hc.2]

theorem qwf_add (q : List Owner) (c : ConnId) (flags : Nat) (hwf : QWF q) (hc : c ∉ q.map (·.conn)) : QWF (qAdd q c flags).1 := by
  obtain ⟨l₁, l₂, rfl, h⟩ := qAdd_new q c flags hc
  unfold QWF at hwf ⊢
  rw [h, (List.perm_middle.map _).nodup_iff]
  exact List.nodup_cons.mpr ⟨hc, hwf⟩

theorem insertBefore_head (o : Owner) (x : Owner) (rest : List Owner) : insertBefore o (some x.conn) (x :: rest) = o :: x :: rest := by
  simp [insertBefore]

/-- **the restore hook of `bus_service_remove_owner` is a left inverse**: the removed primary owner
    goes back in front of its successor, i.e. to the head -/
theorem undo_removePrimary (p : Owner) (rest : List Owner) (hwf : QWF (p :: rest)) :
    undo rest (.restoreOwnership p (rest.head?.map (·.conn))) = p :: rest := by
  show insertBefore p (rest.head?.map (·.conn)) (rest.filter (·.conn != p.conn)) = p :: rest
  rw [filter_ne_of_not_mem (List.nodup_cons.mp hwf).1]
  cases rest <;> simp [insertBefore]

/-- **the restore hook of `bus_service_swap_owner` is a left inverse**: the demoted owner is taken
    out of second place and put back in front -/
theorem undo_swap (p s : Owner) (rest : List Owner) (hwf : QWF (p :: s :: rest)) :
    undo (s :: p :: rest) (.restoreOwnership p (some s.conn)) = p :: s :: rest := by
  have h : p.conn ∉ (s :: rest).map (·.conn) := (List.nodup_cons.mp hwf).1
  rw [List.map_cons, List.mem_cons, not_or] at h
  show insertBefore p (some s.conn) ((s :: p :: rest).filter (·.conn != p.conn)) = p :: s :: rest
  simp [Ne.symm h.1, filter_ne_of_not_mem h.2, insertBefore]

/-- the edits `bus_registry_acquire_service` / `bus_registry_release_service` make with a hook behind them -/
inductive Edit
  | add (c : ConnId) (flags : Nat)       -- `bus_service_add_owner` for a connection not yet in the queue
  | removePrimary                        -- `bus_service_remove_owner` of the primary owner
  | swap                                 -- `bus_service_swap_owner`
  deriving Repr

def Edit.ok (q : List Owner) : Edit → Prop
  | .add c _ => c ∉ q.map (·.conn)
  | .removePrimary => q ≠ []
  | .swap => 2 ≤ q.length

def Edit.apply (t : QTx) : Edit → QTx
  | .add c flags => t.addOwner c flags
  | .removePrimary => match t.q with | p :: _ => t.removeOwner p.conn | [] => t
  | .swap => match t.q with | p :: _ => t.swapOwner p.conn | [] => t

/-- every edit applicable in turn -/
def EditsOk : List Owner → List Edit → Prop
  | _, [] => True
  | q, e :: es => e.ok q ∧ EditsOk (e.apply { q := q }).q es

/-- why `EditsOk` may apply each edit to a transaction without hooks -/
theorem apply_q_indep (t : QTx) (e : Edit) : (e.apply t).q = (e.apply { q := t.q }).q := by
  cases e with
  | add c flags => rfl
  | removePrimary =>
    cases hq : t.q with
    | nil => simp [Edit.apply, hq]
    | cons p rest => simp [Edit.apply, hq, QTx.removeOwner]
  | swap =>
    rcases hq : t.q with _ | ⟨p, _ | ⟨s, r⟩⟩
    · simp [Edit.apply, hq]
    · simp [Edit.apply, hq, QTx.swapOwner]
    · simp [Edit.apply, hq, QTx.swapOwner]

theorem edit_undo (t : QTx) (e : Edit) (hwf : QWF t.q) (hok : e.ok t.q) :
    QWF (e.apply t).q ∧ ∃ h, (e.apply t).hooks = h :: t.hooks ∧ undo (e.apply t).q h = t.q := by
  cases e with
  | add c flags =>
    have hin : inQueue t.q c = false := Bool.eq_false_iff.mpr (mt inQueue_iff.mp hok)
    refine ⟨qwf_add t.q c flags hwf hok, .cancelOwnership c, ?_, undo_addOwner t.q c flags hok⟩
    simp [Edit.apply, QTx.addOwner, hin]
  | removePrimary =>
    cases hq : t.q with
    | nil => exact absurd hq hok
    | cons p rest =>
      rw [hq] at hwf
      simp only [Edit.apply, hq, QTx.removeOwner, beq_self_eq_true, if_true]
      exact ⟨(List.nodup_cons.mp hwf).2, _, rfl, undo_removePrimary p rest hwf⟩
  | swap =>
    rcases hq : t.q with _ | ⟨p, _ | ⟨s, r⟩⟩
    · simp [Edit.ok, hq] at hok
    · simp [Edit.ok, hq] at hok
    · rw [hq] at hwf
      simp only [Edit.apply, hq, QTx.swapOwner, beq_self_eq_true, if_true]
      exact ⟨((List.Perm.swap ..).nodup_iff).mp hwf, _, rfl, undo_swap p s r hwf⟩

/-- **Cancel restores.** Whatever sequence of hooked edits a transaction has made to a well-formed owner
    queue, cancelling it — the hooks run newest first — gives back exactly the queue it started from
    (order of the entries, flags and all). -/
theorem cancel_restores (es : List Edit) : ∀ (t : QTx), QWF t.q → EditsOk t.q es →
    (es.foldl Edit.apply t).cancel = t.cancel := by
  induction es with
  | nil => intro t _ _; rfl
  | cons e es ih =>
    intro t hwf hok
    simp only [List.foldl_cons]
    obtain ⟨hwf', h, hh, hu⟩ := edit_undo t e hwf hok.1
    rw [ih (e.apply t) hwf' (apply_q_indep t e ▸ hok.2)]
    unfold QTx.cancel
    rw [hh, List.foldl_cons, hu]

/-- in particular a fresh transaction: replacing the owner (the newcomer is added, the old owner removed
    or demoted) and then running out of memory leaves the queue as it was -/
theorem replace_then_cancel (q : List Owner) (es : List Edit) (hwf : QWF q) (hok : EditsOk q es) :
    (es.foldl Edit.apply { q := q }).cancel = q :=
  cancel_restores es { q := q } hwf hok

/-- … and the order in which the hooks run is part of it: the very same hooks run oldest first leave the waiter in front
    of the owner (a newcomer replaces an owner that has one waiter behind it; the transaction is cancelled) -/
theorem cancel_order_matters :
    let q : List Owner := [{ conn := 1, allowRepl := true, noQueue := false }, { conn := 2, allowRepl := false, noQueue := false }]
    let t : QTx := [Edit.add 3 2, Edit.swap].foldl Edit.apply { q := q }
    t.cancel = q ∧ t.hooks.reverse.foldl undo t.q ≠ q := by decide

/-- **F22**: a RequestName by a connection already in the queue changes its entry in place and leaves
    no hook — cancelling does not bring the old entry back. Witness: the owner drops DO_NOT_QUEUE. -/
theorem f22_witness :
    let q : List Owner := [{ conn := 1, allowRepl := true, noQueue := true }]
    (QTx.addOwner { q := q } 1 3).cancel ≠ q := by decide

/-- **F23**: a ReleaseName by a waiter unlinks it and leaves no hook -/
theorem f23_witness :
    let q : List Owner := [{ conn := 1, allowRepl := false, noQueue := false }, { conn := 2, allowRepl := false, noQueue := false }]
    (QTx.removeOwner { q := q } 2).cancel ≠ q := by decide

example : QWF [{ conn := 2, allowRepl := true, noQueue := true }, { conn := 5, allowRepl := false, noQueue := false }] ∧
    EditsOk [{ conn := 2, allowRepl := true, noQueue := true }, { conn := 5, allowRepl := false, noQueue := false }]
      [.add 1 2, .removePrimary] := by
  refine ⟨by unfold QWF; decide, ?_, ?_, trivial⟩
  · show (1 : Nat) ∉ _
    decide
  · show _ ≠ ([] : List Owner)
    decide

/-! ### the pending-reply list: the two hooked edits of bus/connection.c

  `bus_connections_expect_reply` prepends a slot and registers `cancel_pending_reply` (remove it
  again); `bus_connections_check_reply` unlinks the slot a reply uses up and registers
  `cancel_check_pending_reply`, which puts the link back *at the head* (`bus_expire_list_add_link`):
  a cancelled transaction restores the list up to order — and the order of pending replies is not
  observable (every entry carries its own deadline). -/

inductive PEdit
  | expect (p : Pending)      -- a call was let through: slot recorded
  | check (p : Pending)       -- a reply was let through: its slot unlinked

structure PTx where
  pend : List Pending
  hooks : List PEdit := []    -- most recent first (cancel runs them in that order)

def PEdit.ok (l : List Pending) : PEdit → Prop
  | .expect p => p ∉ l
  | .check p => p ∈ l

def PEdit.apply (t : PTx) : PEdit → PTx
  | .expect p => { pend := p :: t.pend, hooks := .expect p :: t.hooks }
  | .check p => { pend := t.pend.erase p, hooks := .check p :: t.hooks }

def PEdit.undo (l : List Pending) : PEdit → List Pending
  | .expect p => l.erase p          -- cancel_pending_reply
  | .check p => p :: l              -- cancel_check_pending_reply

def PTx.cancel (t : PTx) : List Pending := t.hooks.foldl PEdit.undo t.pend

def PEditsOk : List Pending → List PEdit → Prop
  | _, [] => True
  | l, e :: es => e.ok l ∧ PEditsOk (e.apply { pend := l }).pend es

theorem undo_perm (hs : List PEdit) {a b : List Pending} (h : a.Perm b) :
    (hs.foldl PEdit.undo a).Perm (hs.foldl PEdit.undo b) :=
  List.foldl_rel h fun h0 _ _ _ hp => by
    cases h0 with
    | expect p => exact hp.erase p
    | check p => exact hp.cons p

/-- undoing the hooks of a transaction, newest first, gives back the pending replies it started from, as a
    multiset -/
theorem pending_cancel_restores : ∀ (es : List PEdit) (t : PTx), t.pend.Nodup → PEditsOk t.pend es →
    ((es.foldl PEdit.apply t).hooks.foldl PEdit.undo (es.foldl PEdit.apply t).pend).Perm (t.hooks.foldl PEdit.undo t.pend)
  | [], _, _, _ => List.Perm.refl _
  | e :: es, t, hn, hok => by
    have hok' : PEditsOk (e.apply t).pend es := by cases e <;> exact hok.2
    -- one step: the newest hook undoes the newest edit, up to order
    have step : (e.apply t).pend.Nodup ∧ (e.apply t).hooks = e :: t.hooks ∧ (PEdit.undo (e.apply t).pend e).Perm t.pend := by
      cases e with
      | expect p => exact ⟨List.nodup_cons.mpr ⟨hok.1, hn⟩, rfl, by simp [PEdit.apply, PEdit.undo]⟩
      | check p => exact ⟨hn.sublist List.erase_sublist, rfl, (List.perm_cons_erase hok.1).symm⟩
    refine (pending_cancel_restores es (e.apply t) step.1 hok').trans ?_
    rw [step.2.1]
    exact undo_perm t.hooks step.2.2

/-- a transaction that is cancelled leaves the pending replies as they were (up to order) -/
theorem cancelled_transaction_restores_pending (l : List Pending) (es : List PEdit) (hn : l.Nodup) (hok : PEditsOk l es) :
    (PTx.cancel (es.foldl PEdit.apply { pend := l })).Perm l :=
  pending_cancel_restores es { pend := l } hn hok

/-- the hypotheses are met: a reply consumes one slot, a call opens another, and the cancellation restores both -/
example : PEditsOk [⟨1, 2, 7⟩] [.check ⟨1, 2, 7⟩, .expect ⟨2, 1, 9⟩] := by
  refine ⟨List.mem_cons_self, ?_, trivial⟩
  simp [PEdit.apply, PEdit.ok]

end Dbus.Props.C14
