import Dbus.Props.C12
import Dbus.Props.C07
import Dbus.Props.C09
/-
  C05 — unicast messages reach exactly the current owner, once, in order.
-/
namespace Dbus.Props.C05
open Dbus.Model Dbus.Model.Bus Dbus.Proofs.Bus

/-- the addressed recipient is never among the match-rule recipients (it already has its copy) -/
theorem addressed_not_recipient (b : Bus) (s : Option ConnId) (a : ConnId) (m : Msg) : a ∉ recipients b s (some a) m :=
  not_mem_recipients b s a m

/-- every match-rule recipient of a message that names a destination has an eavesdropping rule
    matching it -/
theorem recipient_of_unicast_eavesdrops (b : Bus) (s a : Option ConnId) (m : Msg) (d : Bytes) (hd : m.dest = some d)
    (r : ConnId) (hr : r ∈ recipients b s a m) :
    ∃ x ∈ b.conns, x.id = r ∧ ∃ rule ∈ x.rules, rule.eavesdrop = true ∧ ruleMatches rule (matchCtx b s a m) = true := by
  obtain ⟨x, hx, rfl, _, _, rule, hrule, hm⟩ := (mem_recipients ..).mp hr
  refine ⟨x, hx, rfl, rule, hrule, ?_, hm⟩
  have hctx : (matchCtx b s a m).dest = some d := hd
  cases he : rule.eavesdrop with
  | true => rfl
  | false =>
    have := Dbus.Props.C07.unicast_needs_eavesdrop rule (matchCtx b s a m) d hctx he
    simp [ruleMatches, this] at hm

/-- count of copies of `m` delivered to `a` -/
def copiesTo (a : ConnId) (m : Msg) (l : List Out) : Nat :=
  (l.filter fun o => match o with | .deliver to x => to == a && (x.serial == m.serial && x.fields.length == m.fields.length) | _ => false).length

/-- **Delivered exactly once, to the primary owner.** A message from connection `c` that names a
    destination whose primary owner at this moment is `a`, and that the policy gate lets through,
    produces: one copy to `a`, first; then at most one copy to each connection that has an
    eavesdropping match rule matching it — and `a` is not among those. -/
theorem unicast_reaches_owner_once (t : Tx) (c a : ConnId) (m : Msg) (d : Bytes) (p : List Pending)
    (hd : m.dest = some d) (ha : t.bus.primary? d = some a)
    (hpol : checkPolicy t.bus (some c) (some a) (some a) m = (p, none))
    (hfd : (decide (m.nFds > 0) && !canFdOf t.bus a) = false) :
    (route t c m).2 = none ∧
    ∃ l, (route t c m).1.out = t.out ++ Out.deliver a m :: l ∧
      l.Sublist ((recipients (t.setPending p).bus (some c) (some a) m).map fun r => Out.deliver r m) ∧
      a ∉ recipients (t.setPending p).bus (some c) (some a) m := by
  rw [route_owner hd ha, dispatchMatches_granted (p := p) (by rw [capture_bus]; exact hpol) (by rw [capture_bus]; exact hfd)]
  obtain ⟨l, hl, hs⟩ := sendMatches_sublist (((capture t (some c) (some a) m).setPending p).emit (.deliver a m)) (some c) (some a) m
  have hbus : (((capture t (some c) (some a) m).setPending p).emit (.deliver a m)).bus = (t.setPending p).bus :=
    congrArg (fun b : Bus => { b with pending := p }) (capture_bus ..)
  rw [hbus] at hs
  refine ⟨rfl, l, ?_, hs, addressed_not_recipient _ _ a m⟩
  rw [hl]
  show ((capture t (some c) (some a) m).out ++ [Out.deliver a m]) ++ l = _
  rw [capture_out, List.append_assoc]; rfl

/-- **No owner: nothing is delivered, the sender gets one error.** -/
theorem no_owner_no_delivery (t : Tx) (c : ConnId) (m : Msg) (d : Bytes)
    (hd : m.dest = some d) (ha : t.bus.primary? d = none) :
    ∃ e, (route t c m).2 = some e ∧ (e = .nameHasNoOwner ∨ e = .serviceUnknown) ∧
      (route t c m).1.bus = t.bus ∧ (route t c m).1.out = t.out := by
  rw [route_no_owner hd ha]
  exact ⟨_, rfl, iteInduction (motive := fun e : Err => e = .nameHasNoOwner ∨ e = .serviceUnknown) (fun _ => .inl rfl) fun _ => .inr rfl,
    capture_bus .., capture_out ..⟩

/-- **Refused: nothing is delivered.** When the gate refuses the addressed delivery, no copy goes
    anywhere (eavesdroppers included). -/
theorem refused_no_delivery (t : Tx) (c a : ConnId) (m : Msg) (d : Bytes) (p : List Pending) (e : Err)
    (hd : m.dest = some d) (ha : t.bus.primary? d = some a)
    (hpol : checkPolicy t.bus (some c) (some a) (some a) m = (p, some e)) :
    (route t c m).2 = some e ∧ (route t c m).1.out = t.out ∧ (route t c m).1.bus = (t.setPending p).bus := by
  rw [route_owner hd ha, dispatchMatches_refused (p := p) (e := e) (by rw [capture_bus]; exact hpol)]
  exact ⟨rfl, capture_out .., congrArg (fun b : Bus => { b with pending := p }) (capture_bus ..)⟩

/-- **Exactly one error, carrying the call's serial.** What `finish` adds for an undeliverable or
    refused message: at most one message (none only if the sender's own receive policy refuses
    it), an error from the bus whose reply serial is the message's serial. -/
theorem undeliverable_one_error (t : Tx) (c : ConnId) (m : Msg) (e : Err) :
    (finish (t, some e) c m).2 = t.out ∨
    ∃ x, (finish (t, some e) c m).2 = t.out ++ [Out.deliver c x] ∧ x.mtype = 3 ∧ x.replySerial = m.serial ∧
      x.sender = some BUS_NAME :=
  (sendFromDriver_shape t c (known_mkError m e)).imp_right fun ⟨x, h, h1, h2, _, h4⟩ =>
    ⟨x, h, h1, h2.trans (replySerial_mkError m e), h4⟩

/-- **A recipient that is not reading.** When the owner's outgoing queue is over the limit the message
    is not queued for it or for anybody else; the route ends in an error for the sender (which `finish`
    turns into exactly one error reply, `undeliverable_one_error`). -/
theorem stalled_owner_gets_nothing (t : Tx) (c a : ConnId) (m : Msg) (d : Bytes)
    (hd : m.dest = some d) (ha : t.bus.primary? d = some a) (hfull : queueFull t.bus (some a) = true) (hnr : m.replySerial = 0) :
    ∃ e, (route t c m).2 = some e ∧ (route t c m).1.out = t.out := by
  have h := Dbus.Props.C09.full_queue_opens_no_slot t.bus c a m hfull hnr
  rcases hp : checkPolicy t.bus (some c) (some a) (some a) m with ⟨p, e⟩
  rw [hp] at h
  cases e with
  | none => exact absurd rfl h.2
  | some e =>
    obtain ⟨h1, h2, _⟩ := refused_no_delivery t c a m d p e hd ha hp
    exact ⟨e, h1, h2⟩

/-! ### the delivered copy is the sender's message -/

theorem strip_body (m0 : Msg) : (strip m0).body = m0.body ∧ (strip m0).bodyTypes = m0.bodyTypes ∧
    (strip m0).mtype = m0.mtype ∧ (strip m0).flags = m0.flags ∧ (strip m0).serial = m0.serial := ⟨rfl, rfl, rfl, rfl, rfl⟩

/-- every defined header field other than SENDER (and CONTAINER_INSTANCE, which the bus owns) reads
    the same in the forwarded message as in the one received -/
theorem forwarded_fields_intact (m0 : Msg) (name : Bytes) (code : Nat) (h1 : code ≤ 9) (h7 : code ≠ 7) :
    getField ((strip m0).setSender name).fields code = getField m0.fields code := by
  unfold Msg.setSender Msg.setField strip Msg.delField
  simp only
  rw [Dbus.Props.C12.set_frame _ _ code (by simp [strField, FIELD_SENDER]; exact h7)]
  rw [Dbus.Props.C12.delete_frame _ FIELD_CONTAINER_INSTANCE code (by simp [FIELD_CONTAINER_INSTANCE]; omega)]
  exact Dbus.Props.C12.removeUnknown_frame _ code (by simp [FIELD_LAST]; omega)

/-- the forwarded message keeps body, body signature, type, flags and serial -/
theorem forwarded_rest_intact (m0 : Msg) (name : Bytes) :
    ((strip m0).setSender name).body = m0.body ∧ ((strip m0).setSender name).bodyTypes = m0.bodyTypes ∧
    ((strip m0).setSender name).mtype = m0.mtype ∧ ((strip m0).setSender name).flags = m0.flags ∧
    ((strip m0).setSender name).serial = m0.serial := ⟨rfl, rfl, rfl, rfl, rfl⟩

/-- messages are handed over in the order the bus processed them: the outputs of a longer history
    extend those of its prefix -/
theorem outputs_in_processing_order (tbl : List IfaceRow) (b : Bus) (evs : List Ev) (ev : Ev) :
    ∃ out, (run tbl b (evs ++ [ev])).2 = (run tbl b evs).2 ++ [out] :=
  ⟨_, congrArg Prod.snd (run_snoc tbl b evs ev)⟩

/-- **The owner a unicast message is delivered to is a connected client** (and no monitor), in every reachable state: the
    registry never names a connection that has gone. -/
theorem primary_owner_is_connected (tbl : List IfaceRow) (l : Limits) (p : Policy) (evs : List Ev) (d : Bytes) (a : ConnId)
    (h : (run tbl { limits := l, policy := p } evs).1.primary? d = some a) :
    ∃ x ∈ (run tbl { limits := l, policy := p } evs).1.conns, x.id = a ∧ x.monitor = false := by
  have hg := good_run tbl (good_init l p) evs
  obtain ⟨s, hs, hq⟩ := primary?_inQueue h
  exact hg.reg.live s hs a hq

end Dbus.Props.C05
