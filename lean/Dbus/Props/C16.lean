import Dbus.Proofs.Syntax
import Dbus.Proofs.Utf8
import Dbus.Proofs.Signature
/-
  C16 — name, path, signature and UTF-8 checks accept exactly the specified grammars.
  One iff per validator, over `Proofs/Syntax`, `Utf8`, `Signature`.  The two `_iff_lax` forms say what the reference
  accepts before that is held against the specification's depth limits (`Proofs/WireDecode` rests on
  `validateSingle_iff_lax`); the `spec*_iff` tie the executable oracles of the strict specification to the grammars.
-/
namespace Dbus.Props.C16
open Dbus.Spec Dbus.Model Dbus.Proofs

theorem validateMember_iff (s : Bytes) : validateMember s = true ↔ SpecMember s := by
  unfold validateMember SpecMember
  refine guard_iff ?_
  cases s with
  | nil => simp [IsElement]
  | cons c rest => simp [isElement_cons]

theorem validateInterface_iff (s : Bytes) : validateInterface s = true ↔ SpecInterface s := by
  unfold validateInterface SpecInterface
  refine guard_iff ?_
  cases s with
  | nil => simp [not_isDotted_nil]
  | cons c rest =>
    rw [isDotted_cons_iff_scan nameChar_dot (Nat.le_refl 2)]
    by_cases hc : c = DOT
    · simp [hc, initialNameChar_dot]
    · simp [hc]

theorem validateErrorName_iff (s : Bytes) : validateErrorName s = true ↔ SpecErrorName s :=
  validateInterface_iff s

/-- The bus-name check accepts exactly the specification's bus names plus the explicitly
    characterised unique-name laxity (known finding K1). -/
theorem validateBusName_iff (s : Bytes) :
    validateBusName s = true ↔ SpecBusName s ∨ UniqueNameLaxity s := by
  unfold validateBusName
  rw [validateBusNameFull_iff]
  simp only [Bool.false_eq_true, if_false]
  unfold SpecBusName SpecWellKnownName SpecUniqueName UniqueNameLaxity
  constructor
  · rintro ⟨hl, hd | ⟨t, rfl, hlax⟩⟩
    · exact .inl (.inl ⟨hl, hd⟩)
    · by_cases hsp : IsDotted isBusNameChar isBusNameChar 2 t
      · exact .inl (.inr ⟨hl, t, rfl, hsp⟩)
      · exact .inr ⟨hl, t, rfl, hlax, hsp⟩
  · rintro ((⟨hl, hd⟩ | ⟨hl, t, rfl, hd⟩) | ⟨hl, t, rfl, hlax, _⟩)
    · exact ⟨hl, .inl hd⟩
    · exact ⟨hl, .inr ⟨t, rfl, laxUniqueTail_of_isDotted hd⟩⟩
    · exact ⟨hl, .inr ⟨t, rfl, hlax⟩⟩

theorem validateBusNamespace_iff (s : Bytes) :
    validateBusNamespace s = true ↔ SpecBusNamespace s := by
  unfold validateBusNamespace SpecBusNamespace
  rw [validateBusNameFull_iff]
  simp

theorem validatePath_iff (s : Bytes) : validatePath s = true ↔ SpecPath s := by
  unfold validatePath
  cases s with
  | nil => simp [not_specPath_nil]
  | cons c rest =>
    rw [specPath_cons_iff]
    by_cases hc : c = SLASH
    · subst hc; cases rest <;> simp
    · simp [hc]

/-- The UTF-8 check accepts exactly the concatenations of RFC 3629 encodings of non-NUL
    Unicode scalar values: no over-long forms, no surrogates, nothing above U+10FFFF, no
    truncated or stray continuation bytes, no 5/6-byte forms, no NUL. -/
theorem validateUtf8_iff (bs : Bytes) : validateUtf8 bs = true ↔ SpecUtf8 bs := by
  constructor
  · exact validateUtf8_sound bs
  · rintro ⟨cps, h, rfl⟩
    exact validateUtf8_complete cps h

theorem validateSignature_iff_lax (bs : Bytes) :
    validateSignature bs = true ↔
      bs.length ≤ MAX_SIGNATURE_LENGTH ∧
        ∃ ts : List Ty, bs = printList ts ∧ WFList ts ∧ ∀ t ∈ ts, t.DepthLax :=
  guard_iff (sigCheck_iff depthLax_iff bs)

/-- The signature check accepts exactly the specification's signatures, plus the explicitly
    characterised array-depth laxity (known finding K2: arrays separated by brackets may nest
    deeper than 32). -/
theorem validateSignature_iff (bs : Bytes) :
    validateSignature bs = true ↔ SpecSignature bs ∨ ArrayDepthLaxity bs := by
  rw [validateSignature_iff_lax]
  unfold SpecSignature ArrayDepthLaxity
  constructor
  · rintro ⟨hl, ts, hb, hwf, hd⟩
    by_cases hall : ∀ t ∈ ts, t.arrayDepth ≤ MAX_TYPE_DEPTH
    · exact Or.inl ⟨hl, ts, hb, hwf, fun t ht => ⟨hall t ht, (hd t ht).2.1, (hd t ht).2.2⟩⟩
    · refine Or.inr ⟨hl, ts, hb, hwf, hd, ?_⟩
      obtain ⟨t, ht⟩ := Classical.not_forall.1 hall
      obtain ⟨hm, hn⟩ := Classical.not_imp.1 ht
      exact ⟨t, hm, Nat.lt_of_not_le hn⟩
  · rintro (⟨hl, ts, hb, hwf, hd⟩ | ⟨hl, ts, hb, hwf, hd, _⟩)
    · exact ⟨hl, ts, hb, hwf, fun t ht => depthOK_lax t (hd t ht)⟩
    · exact ⟨hl, ts, hb, hwf, hd⟩

/-- Signatures without deep array nesting are decided exactly as the specification says. -/
theorem validateSignature_iff_spec_of_shallow (bs : Bytes) (h : ¬ ArrayDepthLaxity bs) :
    validateSignature bs = true ↔ SpecSignature bs :=
  (validateSignature_iff bs).trans (or_iff_left h)

theorem validateSingle_iff_lax (bs : Bytes) :
    validateSingle bs = true ↔
      bs.length ≤ MAX_SIGNATURE_LENGTH ∧ ∃ t : Ty, bs = t.print ∧ t.WF ∧ t.DepthLax :=
  guard_iff (singleCheck_iff depthLax_iff bs)

/-! ### executable oracles of the strict specification -/

theorem specUniqueName_iff (s : Bytes) : specUniqueName s = true ↔ SpecUniqueName s := by
  unfold specUniqueName SpecUniqueName
  refine guard_iff ?_
  match s with
  | [] => simp
  | [c] => simp [not_isDotted_nil]
  | c :: c1 :: rest =>
    by_cases hd : c1 = DOT
    · subst hd
      simp [busNameChar_dot, isDotted_cons_iff_scan busNameChar_dot (Nat.le_refl 2)]
    · simp [hd, and_assoc, isDotted_cons_iff_scan busNameChar_dot (Nat.le_refl 2)]

theorem specBusName_iff (s : Bytes) : specBusName s = true ↔ SpecBusName s := by
  unfold specBusName
  cases s with
  | nil => simp [SpecBusName, SpecWellKnownName, SpecUniqueName, not_isDotted_nil]
  | cons c rest =>
    by_cases hc : c = COLON
    · subst hc
      have : ¬ SpecWellKnownName (COLON :: rest) := fun h => by
        simpa [initialBusNameChar_colon] using (isDotted_cons_iff.1 h.2).1
      simp [specUniqueName_iff, SpecBusName, this]
    · have : ¬ UniqueNameLaxity (c :: rest) := by
        rintro ⟨_, t, h, _⟩
        cases h
        exact hc rfl
      simp [hc, validateBusName_iff, this]

/-- K1 is not vacuous: `:` alone is accepted by the reference and is not a bus name. -/
theorem uniqueNameLaxity_witness : UniqueNameLaxity [COLON] ∧ ¬ SpecBusName [COLON] := by
  have hn : ¬ SpecBusName [COLON] := by rw [← specBusName_iff]; decide
  exact ⟨((validateBusName_iff _).1 (by decide)).resolve_left hn, hn⟩

theorem specSignature_iff (bs : Bytes) : specSignature bs = true ↔ SpecSignature bs :=
  guard_iff (sigCheck_iff depthOK_iff bs)

theorem specSingle_iff (bs : Bytes) : specSingle bs = true ↔ SpecSingle bs :=
  guard_iff (singleCheck_iff depthOK_iff bs)

/-- non-vacuity: concrete accepted strings of each grammar (`a.b`, `/a/b`, `:1.42`) -/
example : SpecInterface [0x61, 0x2e, 0x62] := by
  rw [← validateInterface_iff]; decide
example : SpecPath [0x2f, 0x61, 0x2f, 0x62] := by
  rw [← validatePath_iff]; decide
example : SpecBusName [0x3a, 0x31, 0x2e, 0x34, 0x32] := by
  rw [← specBusName_iff]; decide

/-- `a{s(iv)}` is a signature; the mis-nested `a{s(ss})` (F1) is not -/
example : SpecSignature [0x61, 0x7b, 0x73, 0x28, 0x69, 0x76, 0x29, 0x7d] := by
  rw [← specSignature_iff]; decide
example : validateSignature [0x61, 0x7b, 0x73, 0x28, 0x73, 0x73, 0x7d, 0x29] = false := by decide

/-- `é€😀` : 2-, 3- and 4-byte forms -/
example : SpecUtf8 [0xc3, 0xa9, 0xe2, 0x82, 0xac, 0xf0, 0x9f, 0x98, 0x80] :=
  ⟨[0xe9, 0x20ac, 0x1f600], by decide, by decide⟩
/-- CESU surrogate `ED A0 80`, over-long `C0 80`, U+110000 are rejected -/
example : ¬ SpecUtf8 [0xed, 0xa0, 0x80] := by rw [← validateUtf8_iff, validateUtf8_cons]; decide
example : ¬ SpecUtf8 [0xc0, 0x80] := by rw [← validateUtf8_iff, validateUtf8_cons]; decide
example : ¬ SpecUtf8 [0xf4, 0x90, 0x80, 0x80] := by rw [← validateUtf8_iff, validateUtf8_cons]; decide

end Dbus.Props.C16
