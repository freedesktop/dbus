import Dbus.Proofs.Bus.Limits
import Dbus.Props.C03
import Dbus.Proofs.Bus.GenericA
import Dbus.Props.C07
/-
  C13 — configured resource limits are never exceeded.
-/
namespace Dbus.Props.C13
open Dbus.Model Dbus.Model.Bus Dbus.Proofs.Bus

/-- **At every moment of every history.**  In every state reachable by any sequence of connects,
    messages (valid or not) and disconnects, under any configured limits: every connection has at
    most `max_match_rules_per_connection` rules and sits in at most `max_names_per_connection`
    owner queues (its unique name counts; with a limit of 0 the unique name is still given), no
    connection has more than `max_replies_per_connection` calls awaiting a reply, at most
    `max_completed_connections` connections are registered, and at most `max_connections_per_user`
    of them belong to any one user. -/
theorem limits_never_exceeded (tbl : List IfaceRow) (l : Limits) (p : Policy) (evs : List Ev) :
    let b := (run tbl { limits := l, policy := p } evs).1
    (∀ x ∈ b.conns, x.rules.length ≤ b.limits.maxRules ∧ x.owned.length ≤ max 1 b.limits.maxNames) ∧
    (∀ c, callsOf b.pending c ≤ b.limits.maxReplies) ∧
    nCompleted b ≤ b.limits.maxCompleted ∧
    (∀ uid, nCompletedFor b uid ≤ b.limits.maxPerUser) := by
  intro b
  have hi : LimitsInv b := limitsInv_run tbl l p evs
  exact ⟨fun x hx => ⟨(hi.conns x hx).1, (hi.conns x hx).2.1⟩, hi.pending, hi.completed, hi.per_user⟩

/-- **… also with service activation and with time.**  The same bounds hold in every state the bus can
    reach when messages are held for services being started, programs end or fail, start timeouts
    and reply timeouts run out (`runT`: the activation layer and the clock layer on top of the core):
    the layers change the core's state only through the primitives the induction covers. -/
theorem limits_never_exceeded_with_activation_and_time (tbl : List IfaceRow) (l : Limits) (p : Policy) (t0 : TBus)
    (h0 : t0.a.core = { limits := l, policy := p }) (evs : List TEv) :
    let b := (runT tbl t0 evs).1.a.core
    (∀ x ∈ b.conns, x.rules.length ≤ b.limits.maxRules ∧ x.owned.length ≤ max 1 b.limits.maxNames) ∧
    (∀ c, callsOf b.pending c ≤ b.limits.maxReplies) ∧
    nCompleted b ≤ b.limits.maxCompleted ∧
    (∀ uid, nCompletedFor b uid ≤ b.limits.maxPerUser) := by
  intro b
  have hi : LimitsInv b := invariant_of_leaves_T limits_leaves tbl evs t0 (h0 ▸ limitsInv_init l p)
  exact ⟨fun x hx => ⟨(hi.conns x hx).1, (hi.conns x hx).2.1⟩, hi.pending, hi.completed, hi.per_user⟩

/-- the limits themselves are never changed by a step -/
theorem limits_constant (tbl : List IfaceRow) (b : Bus) (ev : Ev) : (step tbl b ev).1.limits = b.limits :=
  lv_step limits_const_leaves tbl b ev

/-! ### the request that would exceed a limit is refused and changes nothing -/

theorem names_limit_refuses (t : Tx) (c : ConnId) (n : Bytes) (flags : Nat)
    (h : nOwned t.bus c ≥ t.bus.limits.maxNames) :
    ∃ e, acquire t c n flags = (t, .error e) :=
  acquire_cases (P := fun r => ∃ e, r = (t, .error e)) t c n flags (fun e => ⟨e, rfl⟩) fun ha => absurd ha.room (by omega)

theorem names_limit_error (t : Tx) (c : ConnId) (n : Bytes) (flags : Nat)
    (hv : validateBusName n = true) (h3 : n.head? ≠ some 0x3a) (hb : n ≠ BUS_NAME)
    (hp : canOwn (connPolicy t.bus c) n = true) (h : nOwned t.bus c ≥ t.bus.limits.maxNames) :
    acquire t c n flags = (t, .error .limitsExceeded) := by
  unfold acquire
  simp [hv, h3, hb, hp, h]

theorem rules_limit_refuses (t : Tx) (c : ConnId) (m : Msg) (h : nRules t.bus c ≥ t.bus.limits.maxRules) :
    runMethod t c m .addMatch = (t, some .limitsExceeded) := by
  simp [runMethod, h]

theorem connections_limit_refuses (t : Tx) (c : ConnId) (m : Msg) (hin : t.bus.isActive c = false)
    (h : nCompleted t.bus ≥ t.bus.limits.maxCompleted) : hello t c m = (t, some .limitsExceeded) := by
  unfold hello; simp [hin, h]

theorem per_user_limit_refuses (t : Tx) (c : ConnId) (m : Msg) (hin : t.bus.isActive c = false)
    (h : nCompletedFor t.bus (uidOf t.bus c) ≥ t.bus.limits.maxPerUser) :
    ∃ e, hello t c m = (t, some e) := by
  unfold hello
  simp only [hin, Bool.false_eq_true, if_false]
  split
  · exact ⟨_, rfl⟩
  · simp

theorem replies_limit_refuses (mx : Nat) (pend : List Pending) (caller callee : ConnId) (call : Msg)
    (hnr : call.noReply = false)
    (hnew : pend.contains { caller := caller, callee := callee, serial := call.serial } = false)
    (h : callsOf pend caller ≥ mx) :
    expectReply mx pend caller callee call = (pend, some .limitsExceeded) := by
  have hn' : ¬ ({ caller := caller, callee := callee, serial := call.serial } : Pending) ∈ pend := by simpa using hnew
  unfold expectReply callsOf at *
  simp [hnr, hn', h]

/-! ### below the limit nothing is refused on account of the limit -/

theorem below_names_limit_proceeds (t : Tx) (c : ConnId) (n : Bytes) (flags : Nat)
    (hv : validateBusName n = true) (h3 : n.head? ≠ some 0x3a) (hb : n ≠ BUS_NAME)
    (hp : canOwn (connPolicy t.bus c) n = true) (h : nOwned t.bus c < t.bus.limits.maxNames) :
    (acquire t c n flags).2 = .ok (qAcquire (ownersOf t.bus n) c flags).2.1 := by
  unfold acquire
  have : ¬ (nOwned t.bus c ≥ t.bus.limits.maxNames) := by omega
  simp [hv, h3, hb, hp, this]

theorem below_replies_limit_records (mx : Nat) (pend : List Pending) (caller callee : ConnId) (call : Msg)
    (hnr : call.noReply = false)
    (hnew : pend.contains { caller := caller, callee := callee, serial := call.serial } = false)
    (h : callsOf pend caller < mx) :
    expectReply mx pend caller callee call = ({ caller := caller, callee := callee, serial := call.serial } :: pend, none) := by
  have hn' : ¬ ({ caller := caller, callee := callee, serial := call.serial } : Pending) ∈ pend := by simpa using hnew
  unfold expectReply callsOf at *
  have : ¬ ((pend.filter (·.caller == caller)).length ≥ mx) := by omega
  simp [hnr, hn', this]

/-! ### capacity freed by a release, a reply or a departure becomes usable again -/

/-- a successful RemoveMatch leaves exactly one rule fewer: at the rules limit, the next AddMatch has room -/
theorem removed_rule_frees_room (rs rs' : List MatchRule) (r : MatchRule) (h : removeRule rs r = some rs') :
    rs'.length + 1 = rs.length := by
  obtain ⟨pre, x, post, hs, _, _, hr⟩ := Dbus.Props.C07.remove_removes_one rs rs' r h
  subst hs hr
  simp; omega

/-- below the rules limit AddMatch is never refused on account of the limit (only an over-long text is) -/
theorem below_rules_limit_not_refused (t : Tx) (c : ConnId) (m : Msg) (h : nRules t.bus c < t.bus.limits.maxRules)
    (he : (runMethod t c m .addMatch).2 = some .limitsExceeded) :
    (match parseRule (arg0 m) with | .tooLong => true | _ => false) = true := by
  have hn : ¬ (nRules t.bus c ≥ t.bus.limits.maxRules) := by omega
  simp only [runMethod, hn, if_false] at he
  cases hp : parseRule (arg0 m) with
  | tooLong => rfl
  | invalid => rw [hp] at he; simp at he
  | ok r =>
    rw [hp] at he
    simp only at he
    split at he <;> simp at he

/-- a call that has been answered (its slot erased) no longer counts against its caller -/
theorem answered_call_frees_slot : ∀ (pend : List Pending) (p : Pending), p ∈ pend →
    callsOf (pend.erase p) p.caller + 1 = callsOf pend p.caller := by
  intro pend p h
  unfold callsOf
  have hm : p ∈ pend.filter (·.caller == p.caller) := List.mem_filter.mpr ⟨h, by simp⟩
  rw [← List.erase_filter, List.length_erase_of_mem hm]
  have := List.length_pos_of_mem hm
  omega

/-- a registered connection that leaves makes room for another: one registered connection fewer -/
theorem departure_frees_connection (b : Bus) (c : ConnId) (x : Conn) (hids : (b.conns.map (·.id)).Nodup)
    (hx : x ∈ b.conns) (hid : x.id = c) (hreg : x.name.isSome = true) :
    nCompleted (removeConn c b) + 1 = nCompleted b := by
  -- `x` stands once among the connections: removing `c` removes it and nobody else
  obtain ⟨s, t, hst⟩ := List.append_of_mem hx
  unfold nCompleted removeConn
  rw [hst, List.map_append, List.map_cons, List.nodup_append, List.nodup_cons] at hids
  have keep : ∀ {l : List Conn}, x.id ∉ l.map (·.id) → l.filter (·.id != c) = l := fun h =>
    List.filter_eq_self.mpr fun z hz => by simpa [← hid] using fun e : z.id = x.id => h (e ▸ List.mem_map_of_mem hz)
  have hs : x.id ∉ s.map (·.id) := fun h => hids.2.2 _ h _ (List.mem_cons_self ..) rfl
  simp [hst, List.filter_append, keep hs, keep hids.2.1.1, hid, hreg]
  omega

/-! ### an over-long message costs only its sender the connection -/

/-- what the loader rejects (C01: `message_size_limit`) reaches the bus as "invalid input from c":
    connection c goes, every other connection stays exactly as it was named -/
theorem oversized_only_sender_dropped (tbl : List IfaceRow) (b : Bus) (c : ConnId) :
    ∀ p ∈ names b, p.1 ≠ c → p ∈ names (step tbl b (.invalid c)).1 := by
  intro p hp hne
  show p ∈ names (step tbl b (.invalid c)).bus
  rw [step_invalid_bus, names_disconnect]
  exact List.mem_filter.mpr ⟨hp, by simpa [bne_iff_ne] using hne⟩

/-- non-vacuity: a concrete reachable state at a limit — with room for one registered connection,
    the second Hello is refused -/
example :
    nCompleted (run Dbus.Props.C03.helloTable { limits := { maxCompleted := 1 } }
      [.connect 1 0 [] false, .msg 1 Dbus.Props.C03.helloMsg, .connect 2 0 [] false, .msg 2 Dbus.Props.C03.helloMsg]).1 = 1 ∧
    (run Dbus.Props.C03.helloTable { limits := { maxCompleted := 1 } }
      [.connect 1 0 [] false, .msg 1 Dbus.Props.C03.helloMsg, .connect 2 0 [] false, .msg 2 Dbus.Props.C03.helloMsg]).1.conns.length = 2 := by
  decide +kernel

end Dbus.Props.C13
