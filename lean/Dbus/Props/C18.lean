import Dbus.Proofs.Bus.MonInv
/-
  C18 — a monitor sees everything that matches and can affect nothing.

  In the model the copies for monitors (`bus_transaction_capture`) are collected in `Tx.mon`, apart
  from `Tx.out`; nothing ever reads `mon`, and `run` keeps `out` only: what is said about `mon` ("sees everything")
  is said of one transaction, what is said about histories ("can affect nothing") of `out` and the state.
-/
namespace Dbus.Props.C18
open Dbus.Model Dbus.Model.Bus Dbus.Proofs.Bus

/-- **Exactly one copy each.** A capture appends one copy of the message for each capture target, in
    connection order, and touches nothing else. -/
theorem capture_exact (t : Tx) (s a : Option ConnId) (m : Msg) :
    (capture t s a m).mon = t.mon ++ (captureTargets t.bus s a m).map (Out.deliver · m) ∧
    (capture t s a m).bus = t.bus ∧ (capture t s a m).out = t.out :=
  ⟨emitTo_fold m _ t, capture_bus t s a m, capture_out t s a m⟩

/-- who the targets are: while there is a monitor at all, exactly the connections holding a monitor
    rule that matches the message, except the addressed recipient -/
theorem target_iff (b : Bus) (s a : Option ConnId) (m : Msg) (r : ConnId) :
    r ∈ captureTargets b s a m ↔
      (b.conns.any (·.monitor) = true ∧ ∃ x ∈ b.conns, x.id = r ∧ some r ≠ a ∧
        ∃ rule ∈ x.monitorRules, ruleMatches rule (matchCtx b s a m) = true) := by
  unfold captureTargets
  by_cases hm : b.conns.any (·.monitor) = true
  · simp only [hm, Bool.not_true, Bool.false_eq_true, if_false, List.mem_map, List.mem_filter, Bool.and_eq_true,
      bne_iff_ne, ne_eq, List.any_eq_true, true_and]
    constructor
    · rintro ⟨x, ⟨hx, hne, rule, hr, hmatch⟩, rfl⟩
      exact ⟨x, hx, rfl, hne, rule, hr, hmatch⟩
    · rintro ⟨x, hx, rfl, hne, rule, hr, hmatch⟩
      exact ⟨x, ⟨hx, hne, rule, hr, hmatch⟩, rfl⟩
  · rw [Bool.eq_false_iff.mpr hm]
    exact Iff.intro (fun h => nomatch h) (fun h => nomatch h.1)

/-- with distinct connection ids nobody is a target twice -/
theorem targets_nodup (b : Bus) (s a : Option ConnId) (m : Msg) (hn : (b.conns.map (·.id)).Nodup) :
    (captureTargets b s a m).Nodup := by
  unfold captureTargets
  split
  · exact List.nodup_nil
  · exact hn.sublist (List.Sublist.map _ List.filter_sublist)

/-- **Every routed message is shown to the monitors before the bus decides anything about it**:
    unicast (deliverable, refused or ownerless alike) and broadcast. `rest` is whatever the transaction shows them
    afterwards (in the model: copies of the errors the bus makes); it is not characterised here. -/
theorem routed_message_is_captured (t : Tx) (c : ConnId) (m : Msg) :
    ∃ (a : Option ConnId) (rest : List Out),
      (route t c m).1.mon = t.mon ++ (captureTargets t.bus (some c) a m).map (Out.deliver · m) ++ rest ∧
      (a = none ∨ ∃ d, m.dest = some d ∧ t.bus.primary? d = a) :=
  route_cases (P := fun r => ∃ (a : Option ConnId) (rest : List Out),
      r.1.mon = t.mon ++ (captureTargets t.bus (some c) a m).map (Out.deliver · m) ++ rest ∧
      (a = none ∨ ∃ d, m.dest = some d ∧ t.bus.primary? d = a)) t c m
    (fun _ =>
      have ⟨l, hl⟩ := shown_first ((MonExt.delivery (some c) none m).refl (capture t (some c) none m))
      ⟨none, l, hl, .inl rfl⟩)
    fun a ha =>
      have ⟨l, hl⟩ := shown_first ((MonExt.delivery (some c) a m).dispatchMatches (capture t (some c) a m))
      ⟨a, l, hl, ha⟩

/-- **Whatever the bus itself sends is shown too** (replies, errors, NameAcquired/NameLost …): the
    stamped message, before the recipient's policy is consulted. -/
theorem driver_message_is_captured (t : Tx) (to : ConnId) (m : Msg) :
    ∃ rest, (sendFromDriver t to m).mon =
      t.mon ++ (captureTargets t.bus none (some to) (stampDriver t.bus to m)).map (Out.deliver · (stampDriver t.bus to m)) ++ rest := by
  unfold sendFromDriver
  exact shown_first ((MonExt.delivery none (some to) _).sendStamped _)

/-- NameOwnerChanged broadcasts likewise -/
theorem owner_changed_is_captured (t : Tx) (n o w : Bytes) :
    ∃ rest, (sigOwnerChanged t n o w).mon =
      t.mon ++ (captureTargets t.bus none none (ownerChangedMsg n o w)).map (Out.deliver · (ownerChangedMsg n o w)) ++ rest :=
  shown_first ((MonExt.delivery none none _).dispatchMatches _)

/-- a message to the bus driver: shown with the sender the shared message object ends up with (so `toDriver` is defined;
    this only spells it out) -/
theorem driver_call_is_captured (tbl : List IfaceRow) (t : Tx) (c : ConnId) (m : Msg) :
    ∃ shown rest, (toDriver tbl t c m).1.mon =
      t.mon ++ (captureTargets t.bus (some c) none m).map (Out.deliver · shown) ++ rest ∧
      shown = m.setSender (senderNameOf (toDriver tbl t c m).1.bus c) :=
  ⟨_, _, rfl, rfl⟩

/-- a monitor is never picked as a match-rule recipient -/
theorem monitor_never_recipient (b : Bus) (s a : Option ConnId) (m : Msg) (x : Conn) (hx : x ∈ b.conns)
    (hm : x.monitor = true) (hn : (b.conns.map (·.id)).Nodup) : x.id ∉ recipients b s a m := by
  intro h
  obtain ⟨y, hy, hid, hym, _⟩ := (mem_recipients ..).mp h
  exact monitor_not_nonMon hn hx hm ⟨y, hy, hid, hym⟩

/-- **A monitor that sends is disconnected** — any message that reaches `bus_dispatch` … -/
theorem monitor_sending_is_dropped (tbl : List IfaceRow) (b : Bus) (c : ConnId) (m0 : Msg) (x : Conn)
    (hx : b.conn? c = some x) (hm : x.monitor = true)
    (hnp : ((strip m0).dest.isNone && (strip m0).iface == some PEER_IFACE) = false) :
    dispatch tbl b c m0 = dropConn b c :=
  dispatch_monitor tbl hx hm hnp

/-- … but not one that the connection's built-in peer filter intercepts first (known finding F18):
    a destination-less message on org.freedesktop.DBus.Peer is answered, and the monitor stays -/
theorem f18_peer_filter_answers_monitors (tbl : List IfaceRow) (b : Bus) (c : ConnId) (m0 : Msg) (x : Conn)
    (hx : b.conn? c = some x)
    (hp : ((strip m0).dest.isNone && (strip m0).iface == some PEER_IFACE) = true) :
    (dispatch tbl b c m0).bus = b ∧ (dispatch tbl b c m0).out = [Out.deliver c (peerFilterReply (strip m0))] := by
  rw [dispatch_peer tbl hx hp]
  exact ⟨rfl, rfl⟩

/-- the filter a monitor asks for always eavesdrops, whatever its rules say -/
theorem monitor_rules_eavesdrop : ∀ (texts : List Bytes) (rules : List MatchRule),
    parseMonitorRules texts = .ok rules → ∀ r ∈ rules, r.eavesdrop = true
  | [], rules, h => by simp only [parseMonitorRules, Except.ok.injEq] at h; subst h; intro r hr; cases hr
  | txt :: rest, rules, h => by
    unfold parseMonitorRules at h
    cases hp : parseRule txt with
    | tooLong => rw [hp] at h; cases h
    | invalid => rw [hp] at h; cases h
    | ok r0 =>
      cases hrs : parseMonitorRules rest with
      | error e => rw [hp, hrs] at h; cases h
      | ok rs =>
        rw [hp, hrs] at h
        cases h
        exact List.forall_mem_cons.mpr ⟨rfl, monitor_rules_eavesdrop rest rs hrs⟩

/-! ### what the other clients observe

  Proved below for every history of the core bus (`run`: no activation layer, no clock) from a state satisfying `Good` (the
  invariant of `Proofs/Bus/MonInv.lean`, which every reachable state satisfies): step by step the bus sends its clients what
  the comparison world `shadowRun` sends them, and the two states agree up to shading.

  The comparison world is NOT the history with the BecomeMonitor calls left out.  It takes the same events (but a monitor that
  sends, which the bus disconnects, is there a connection that sent something unacceptable: `shadowEv`) on a bus shaded again
  after every step: `shade none b` turns every monitor into a registered ordinary connection without match rules, which keeps
  its place, its unique name, its uid and its filter `monitorRules`, so that every count the limits look at is the same.  A
  BecomeMonitor call is therefore carried out in full there too - names released, rules dropped, other clients' rules naming
  the caller's unique name garbage-collected (`gcRules`), reply sent - and only the flag it sets is taken back.  What is proved
  is that BEING a monitor (being shown copies, being passed over by every delivery) changes nothing for the others; the side
  effects of BECOMING one happen in both worlds, and a history without the call can differ from both (another client's
  RemoveMatch of a rule naming the monitor's unique name finds the rule there).

  NOT COVERED: the activation layer (`stepA`: a message held for a service that is being started is delivered later; if its
  sender has become a monitor in between, a pending reply with a monitor as caller is recorded, which the invariant excludes
  for the core) and the clock layer; for them the per-dispatch theorems below (`…_partial`) and the differential test stand. -/

theorem gate_ignores_monitors (b : Bus) (s a p : Option ConnId) (m : Msg) :
    checkPolicy (shade none b) s a p m = checkPolicy b s a p m := checkPolicy_shade b s a p m

theorem others_observe_the_same_partial (b : Bus) (c : ConnId) (m : Msg) :
    (route { bus := shade none b } c m).1.out = (route { bus := b } c m).1.out ∧
    (route { bus := shade none b } c m).2 = (route { bus := b } c m).2 ∧
    (route { bus := shade none b } c m).1.bus = shade none (route { bus := b } c m).1.bus := by
  have h := shadow_route (t := { bus := b }) (t' := { bus := shade none b }) ⟨rfl, rfl⟩ c m
  exact ⟨h.1.2, h.2, h.1.1⟩

theorem driver_sends_the_same_partial (b : Bus) (to : ConnId) (m : Msg) :
    (sendFromDriver { bus := shade none b } to m).out = (sendFromDriver { bus := b } to m).out ∧
    (sendFromDriver { bus := shade none b } to m).bus = shade none (sendFromDriver { bus := b } to m).bus := by
  have h := shadow_sendFromDriver (t := { bus := b }) (t' := { bus := shade none b }) ⟨rfl, rfl⟩ to m
  exact ⟨h.2, h.1⟩

/-- a whole step of the bus for peer traffic (everything but calls to the bus driver): same ordinary output, same state
    up to shading -/
theorem peer_traffic_step_ignores_monitors_partial (tbl : List IfaceRow) (b : Bus) (c : ConnId) (x : Conn) (m0 : Msg)
    (hx : b.conn? c = some x) (hmon : x.monitor = false) (hname : x.name.isSome = true)
    (hdest : ((strip m0).setSender (senderNameOf b c)).dest ≠ some BUS_NAME) :
    (step tbl (shade none b) (.msg c m0)).out = (step tbl b (.msg c m0)).out ∧
    (step tbl (shade none b) (.msg c m0)).bus = shade none (step tbl b (.msg c m0)).bus := by
  have _ := hname  -- not needed: an unregistered sender is dropped alike in both worlds
  have := shadow_dispatch (k := none) tbl b c x m0 hx hmon (fun h => absurd h hdest)
  exact ⟨this.2, this.1⟩

/-- the side condition is what `BecomeMonitor` establishes: the new monitor is left without ordinary rules -/
theorem new_monitor_has_no_rules (c : ConnId) (x : Conn) (rules : List MatchRule) (b : Bus) :
    ∀ y ∈ (joinMonitors c x rules b).conns, y.id = c → y.rules = [] ∧ y.monitor = true := by
  intro y hy hid
  rw [joinMonitors_eq] at hy
  unfold Bus.updConn at hy
  simp only [List.mem_map] at hy
  obtain ⟨y0, _, rfl⟩ := hy
  by_cases h : (y0.id == c) = true
  · simp only [h, if_true]; trivial
  · simp only [h] at hid ⊢
    exact absurd (by simpa using hid) h

/-- the comparison world: the bus `s` whose monitors are shaded again after every step, run alongside the real one `b`
    (which only says which senders are monitors) -/
def shadowRun (tbl : List IfaceRow) : Bus → Bus → List Ev → List (List Out)
  | _, _, [] => []
  | b, s, ev :: evs =>
    (step tbl s (shadowEv b ev)).out :: shadowRun tbl (step tbl b ev).bus (shade none (step tbl s (shadowEv b ev)).bus) evs

/-- **One step, with and without the monitors**, in every good state: the same outputs, the same state up to shading. -/
theorem step_ignores_monitors (tbl : List IfaceRow) (b : Bus) (h : Good b) (ev : Ev) :
    (step tbl (shade none b) (shadowEv b ev)).out = (step tbl b ev).out ∧
    shade none (step tbl (shade none b) (shadowEv b ev)).bus = shade none (step tbl b ev).bus := by
  have := step_sim tbl b h.ids h.reg.clean
    (fun c m x hx hm => quietX_before_sweep tbl h c m (actor_of_conn h.ids hx hm) (nonMon_of_conn hx hm)) ev
  exact ⟨this.2, this.1⟩

def shadowFinal (tbl : List IfaceRow) : Bus → Bus → List Ev → Bus
  | _, s, [] => s
  | b, s, ev :: evs => shadowFinal tbl (step tbl b ev).bus (shade none (step tbl s (shadowEv b ev)).bus) evs

theorem history (tbl : List IfaceRow) : ∀ (evs : List Ev) (b : Bus), Good b →
    (run tbl b evs).2 = shadowRun tbl b (shade none b) evs ∧ shadowFinal tbl b (shade none b) evs = shade none (run tbl b evs).1
  | [], _, _ => ⟨rfl, rfl⟩
  | ev :: evs, b, h => by
    have hs := step_ignores_monitors tbl b h ev
    have ih := history tbl evs _ (good_step tbl h ev)
    rw [run_cons, shadowRun, shadowFinal, hs.1, hs.2]
    exact ⟨congrArg _ ih.1, ih.2⟩

/-- **Being a monitor affects nothing**: over any history from a good state, the clients are sent exactly what they are sent
    in the comparison world, where no connection stays a monitor beyond the step of its BecomeMonitor call. -/
theorem others_observe_the_same (tbl : List IfaceRow) : ∀ (evs : List Ev) (b : Bus), Good b →
    (run tbl b evs).2 = shadowRun tbl b (shade none b) evs :=
  fun evs b h => (history tbl evs b h).1

theorem states_agree_up_to_shading (tbl : List IfaceRow) : ∀ (evs : List Ev) (b : Bus), Good b →
    shadowFinal tbl b (shade none b) evs = shade none (run tbl b evs).1 :=
  fun evs b h => (history tbl evs b h).2

theorem others_observe_the_same_from_start (tbl : List IfaceRow) (l : Limits) (p : Policy) (evs : List Ev) :
    (run tbl { limits := l, policy := p } evs).2 = shadowRun tbl { limits := l, policy := p } { limits := l, policy := p } evs :=
  others_observe_the_same tbl evs _ (good_init l p)

/-- the comparison world has no monitor at the beginning of any step -/
theorem shaded_bus_has_no_monitor (b : Bus) : ∀ x ∈ (shade none b).conns, x.monitor = false := by
  intro x hx
  unfold shade at hx
  obtain ⟨y, _, rfl⟩ := List.mem_map.mp hx
  exact neutral_monitor_none y

/-- what the invariant says about monitors in every reachable state: no match rules, no names, no pending replies -/
theorem reachable_monitor_is_inert (tbl : List IfaceRow) (l : Limits) (p : Policy) (evs : List Ev) :
    ∀ x ∈ (run tbl { limits := l, policy := p } evs).1.conns, x.monitor = true →
      x.rules = [] ∧
      (∀ s ∈ (run tbl { limits := l, policy := p } evs).1.services, inQueue s.owners x.id = false) ∧
      (∀ e ∈ (run tbl { limits := l, policy := p } evs).1.pending, e.caller ≠ x.id ∧ e.callee ≠ x.id) := by
  intro x hx hm
  have hg := good_run tbl (good_init l p) evs
  refine ⟨hg.reg.clean x hx hm, ?_, ?_⟩
  · exact fun s hs => Bool.eq_false_iff.mpr fun hq => monitor_not_nonMon hg.ids hx hm (hg.reg.live s hs x.id hq)
  · exact fun e he => involves_eq_false.mp (hg.quiet x hx hm e he)

/-- the invariant behind it (`Good`: distinct ids, well-formed queues, queue members connected and no monitors, monitors
    without rules and without pending replies) holds in every reachable state -/
theorem reachable_states_are_good (tbl : List IfaceRow) (l : Limits) (p : Policy) (evs : List Ev) :
    Good (run tbl { limits := l, policy := p } evs).1 := good_run tbl (good_init l p) evs

/-! non-vacuity: a reachable state with a monitor in it meets the hypotheses of the theorems above -/

def MONITORING : Bytes := ([0x6f,0x72,0x67,0x2e,0x66,0x72,0x65,0x65,0x64,0x65,0x73,0x6b,0x74,0x6f,0x70,0x2e,0x44,0x42,0x75,0x73,0x2e,0x4d,0x6f,0x6e,0x69,0x74,0x6f,0x72,0x69,0x6e,0x67] : Bytes)
def BECOME : Bytes := ([0x42,0x65,0x63,0x6f,0x6d,0x65,0x4d,0x6f,0x6e,0x69,0x74,0x6f,0x72] : Bytes)
def HELLO : Bytes := ([0x48, 0x65, 0x6c, 0x6c, 0x6f] : Bytes)
def monTable : List IfaceRow :=
  [{ name := BUS_NAME, anyPath := true, methods := [{ name := HELLO, inSig := [], anyPath := true, privileged := false }] },
   { name := MONITORING, anyPath := false, methods := [{ name := BECOME, inSig := [0x61,0x73,0x75], anyPath := false, privileged := true }] }]
def openPolicy : Policy := { default := [⟨true, .send {}⟩, ⟨true, .receive {}⟩, ⟨true, .own none false⟩] }
def helloMsg : Msg :=
  { endian := .little, mtype := 1, flags := 0, version := 1, serial := 1,
    fields := [pathField DBUS_PATH, strField FIELD_INTERFACE BUS_NAME, strField FIELD_MEMBER HELLO, strField FIELD_DESTINATION BUS_NAME],
    bodyTypes := [], body := [] }
def becomeMsg : Msg :=
  { endian := .little, mtype := 1, flags := 0, version := 1, serial := 2,
    fields := [pathField DBUS_PATH, strField FIELD_INTERFACE MONITORING, strField FIELD_MEMBER BECOME,
               strField FIELD_DESTINATION BUS_NAME, sigField [.array tStr, tU32]],
    bodyTypes := [.array tStr, tU32], body := [.array tStr [], .fixed .u32 0] }

/-- connect (as root), Hello, BecomeMonitor: the connection is a monitor now, the state is good -/
example : Good (run monTable { policy := openPolicy } [.connect 1 0 [] false, .msg 1 helloMsg, .msg 1 becomeMsg]).1 ∧
    (run monTable { policy := openPolicy } [.connect 1 0 [] false, .msg 1 helloMsg, .msg 1 becomeMsg]).1.conns.map (·.monitor) = [true] :=
  ⟨reachable_states_are_good _ _ _ _, by decide +kernel⟩

/-- the hypotheses are met by a bus with a monitor in it -/
example : MonClean { conns := [{ id := 1, uid := 0, monitor := true, monitorRules := [default] }, { id := 2, uid := 0, rules := [default] }] } := by
  intro x hx hm
  simp only [List.mem_cons, List.mem_nil_iff, or_false] at hx
  rcases hx with rfl | rfl
  · rfl
  · cases hm

end Dbus.Props.C18
