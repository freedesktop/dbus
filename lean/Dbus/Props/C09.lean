import Dbus.Proofs.Bus.GenericA
import Dbus.Proofs.Bus.Limits
import Dbus.Proofs.Bus.MonInv
/-
  C09 — only the addressee of a pending call can answer it, once.
-/
namespace Dbus.Props.C09
open Dbus.Model Dbus.Model.Bus Dbus.Proofs.Bus

/-- a policy that lets a reply out only when it was requested (the system bus default:
    `<allow send_requested_reply="true" send_type="method_return|error"/>` and nothing more for replies) -/
def OnlyRequestedReplies (mxf : Nat) (rules : List PRule) : Prop :=
  ∀ (v : MsgView) (recv : PeerInfo), v.isReply = true → canSend mxf rules v false recv = false

def slot (caller callee : ConnId) (serial : Nat) : Pending := { caller := caller, callee := callee, serial := serial }

/-- **Unrequested replies are refused.** A reply (method return or error) from `s` addressed to `r`
    for which no slot (r called s with that serial, still unanswered) exists is refused as access
    denied — whatever its serial, whoever `s` is. -/
theorem reply_without_slot_refused (b : Bus) (s r : ConnId) (m : Msg) (rules : List PRule)
    (hact : b.isActive s = true) (hrules : rulesOf b (some s) = some rules)
    (honly : OnlyRequestedReplies b.limits.maxFdsDefault rules)
    (hk : knownType m = true) (hr : m.replySerial ≠ 0)
    (hno : b.pending.contains (slot r s m.replySerial) = false) :
    checkPolicy b (some s) (some r) (some r) m = (b.pending, some .accessDenied) := by
  have hreq : requestedReply b (some s) (some r) (some r) m = (b.pending, false) := by
    have hmem : ¬ ({ caller := r, callee := s, serial := m.replySerial } : Pending) ∈ b.pending := by
      simpa [slot] using hno
    unfold requestedReply checkReply
    simp [hact, hr, hmem]
  have hv : policyVerdict b (some s) (some r) (some r) m false = some .accessDenied := by
    unfold policyVerdict sendAllowed
    simp only [senderInactive, hact, Bool.not_true, Bool.false_eq_true, if_false, hrules]
    rw [honly _ _ (show (msgView m).isReply = true by simp [msgView, hr])]
    simp
  unfold checkPolicy
  simp only [hk, Bool.not_true, Bool.false_eq_true, if_false, hreq, hv]

/-- **A reply uses its slot up.** Whether or not the rest of the policy then lets it through, a
    reply that finds its slot removes it. -/
theorem reply_consumes_slot (b : Bus) (s r : ConnId) (m : Msg)
    (hact : b.isActive s = true) (hk : knownType m = true) (hr : m.replySerial ≠ 0) (hty : m.mtype ≠ 1)
    (hyes : b.pending.contains (slot r s m.replySerial) = true) :
    (checkPolicy b (some s) (some r) (some r) m).1 = b.pending.erase (slot r s m.replySerial) := by
  have hreq : requestedReply b (some s) (some r) (some r) m = (b.pending.erase (slot r s m.replySerial), true) := by
    have hmem : ({ caller := r, callee := s, serial := m.replySerial } : Pending) ∈ b.pending := by
      simpa [slot] using hyes
    unfold requestedReply checkReply
    simp [hact, hr, hmem, slot]
  unfold checkPolicy
  simp only [hk, Bool.not_true, Bool.false_eq_true, if_false, hreq]
  have h1 : (m.mtype == 1) = false := by simpa using hty
  cases policyVerdict b (some s) (some r) (some r) m true with
  | some e => rfl
  | none => simp [h1]

/-- **At most one reply per call**: once the slot is used up, with a duplicate-free pending list the
    same reply finds none (and is then refused by `reply_without_slot_refused`). -/
theorem second_reply_finds_no_slot (pend : List Pending) (p : Pending) (hn : pend.Nodup) :
    (pend.erase p).contains p = false := by
  simp only [List.contains_eq_mem, decide_eq_false_iff_not]
  exact fun h => (List.Nodup.mem_erase_iff hn).mp h |>.1 rfl

/-- **A call that expects no reply opens no slot.** -/
theorem no_reply_expected_no_slot (mx : Nat) (pend : List Pending) (caller callee : ConnId) (call : Msg)
    (h : call.noReply = true) : expectReply mx pend caller callee call = (pend, none) := by
  unfold expectReply; simp [h]

/-- **An outstanding serial cannot be reused**: a second call with the serial of a still unanswered
    one to the same callee is refused and opens nothing. -/
theorem outstanding_serial_refused (mx : Nat) (pend : List Pending) (caller callee : ConnId) (call : Msg)
    (hnr : call.noReply = false) (h : pend.contains (slot caller callee call.serial) = true) :
    expectReply mx pend caller callee call = (pend, some .accessDenied) := by
  have hmem : ({ caller := caller, callee := callee, serial := call.serial } : Pending) ∈ pend := by
    simpa [slot] using h
  unfold expectReply
  simp [hnr, hmem]

/-- in every reachable state no slot (caller, callee, serial) is recorded twice -/
theorem pending_never_duplicated (tbl : List IfaceRow) (l : Limits) (p : Policy) (evs : List Ev) :
    (run tbl { limits := l, policy := p } evs).1.pending.Nodup :=
  invariant_of_leaves pend_leaves tbl _ evs List.nodup_nil

/-! ### the callee vanishes, or the timeout elapses: one NoReply per waiting call -/

/-- the NoReply the bus makes for a slot -/
def noReplyFor (b : Bus) (p : Pending) : Out :=
  Out.deliver p.caller (stampDriver b p.caller (mkError (fakeCall p.serial) .noReply))

/-- **The callee disconnects.** All slots involving the vanished connection go; for each call that
    was waiting on it the caller gets at most one NoReply (exactly one unless its own receive policy
    refuses it), in slot order, and nothing else is sent. -/
theorem callee_gone_one_noreply_each (t : Tx) (c : ConnId) :
    (dropPending t c).bus.pending = t.bus.pending.filter (fun p => !involves c p) ∧
    ∃ l, (dropPending t c).out = t.out ++ l ∧
      l.Sublist (((t.bus.pending.filter (involves c)).filter (fun p => p.callee == c && p.caller != c)).map
        (noReplyFor { t.bus with pending := t.bus.pending.filter fun p => !involves c p })) := by
  unfold dropPending
  -- `noReplyTo c` answers the slots on which `c` was the one called
  rw [show noReplyTo c = fun t p => if p.callee == c && p.caller != c then sendError t p.caller (fakeCall p.serial) .noReply else t from rfl,
    ← List.foldl_filter]
  have key := expired_spec ((t.bus.pending.filter (involves c)).filter fun p => p.callee == c && p.caller != c)
    (t.setPending (t.bus.pending.filter fun p => !involves c p))
  exact ⟨by rw [key.1]; rfl, key.2⟩

/-- the NoReply carries the call's serial and comes from the bus -/
theorem noReply_shape (b : Bus) (p : Pending) :
    ∃ x, noReplyFor b p = Out.deliver p.caller x ∧ x.mtype = 3 ∧ x.sender = some BUS_NAME := by
  refine ⟨_, rfl, ?_, (stampDriver_busMade b p.caller (known_mkError _ _)).1⟩
  unfold stampDriver
  cases b.nameOf p.caller <;> rfl

/-- **A callee that is not reading gets no call and owes no reply.** When the addressed recipient's
    outgoing queue is over the limit the gate refuses (LimitsExceeded unless the policy refuses first)
    and a method call leaves the pending-reply list exactly as it was: no slot is recorded for a call
    that was never delivered. -/
theorem full_queue_opens_no_slot (b : Bus) (s a : ConnId) (m : Msg) (hfull : queueFull b (some a) = true)
    (hnr : m.replySerial = 0) :
    (checkPolicy b (some s) (some a) (some a) m).1 = b.pending ∧ (checkPolicy b (some s) (some a) (some a) m).2 ≠ none := by
  -- whatever else the policy says, a full queue refuses
  have hv : ∀ r, policyVerdict b (some s) (some a) (some a) m r ≠ none := by
    intro r
    unfold policyVerdict
    refine iteInduction (motive := fun v : Option Err => v ≠ none) (fun _ => by simp) fun _ =>
      iteInduction (motive := fun v : Option Err => v ≠ none) (fun _ => nofun) fun _ =>
        iteInduction (motive := fun v : Option Err => v ≠ none) (fun _ => nofun) fun _ => ?_
    rw [if_pos hfull]; nofun
  have hrr : requestedReply b (some s) (some a) (some a) m = (b.pending, false) := by
    unfold requestedReply
    simp [hnr]
  unfold checkPolicy
  refine iteInduction (motive := fun r : List Pending × Option Err => r.1 = b.pending ∧ r.2 ≠ none) (fun _ => ⟨rfl, nofun⟩) fun _ => ?_
  rw [hrr]
  dsimp only
  cases hp : policyVerdict b (some s) (some a) (some a) m false with
  | none => exact absurd hp (hv false)
  | some e => exact ⟨rfl, nofun⟩

/-! ### deadlines: the reply timeout is per call, fixed when the call is delivered -/

/-- **Entries that are due go, the others stay.** `do_expiration_with_monotonic_time` in the model:
    whatever set of pending replies is due, exactly those are removed, each caller gets at most one
    NoReply per removed slot (exactly one unless its own receive policy refuses it), in list order,
    and nothing else is sent. -/
theorem expire_due_one_noreply_each (b : Bus) (due : Pending → Bool) :
    (expireWhere b due).bus.pending = b.pending.filter (fun p => !due p) ∧
    ∃ l, (expireWhere b due).out = l ∧
      l.Sublist ((b.pending.filter due).map (noReplyFor { b with pending := b.pending.filter fun p => !due p })) := by
  unfold expireWhere
  obtain ⟨h1, l, hl, hs⟩ := expired_spec (b.pending.filter due) { bus := { b with pending := b.pending.filter fun p => !due p } }
  exact ⟨congrArg Bus.pending h1, l, hl.trans (List.nil_append l), hs⟩

/-- **The reply timeout elapses.** Every slot goes and each caller gets at most one NoReply per slot. -/
theorem timeout_one_noreply_each (b : Bus) :
    (expireAll b).1.pending = [] ∧
    ∃ l, (expireAll b).2 = l ∧ l.Sublist (b.pending.map (noReplyFor { b with pending := [] })) := by
  unfold expireAll
  obtain ⟨h1, l, hl, hs⟩ := expired_spec b.pending { bus := { b with pending := [] } }
  exact ⟨congrArg Bus.pending h1, l, hl.trans (List.nil_append l), hs⟩

/-- has the deadline of the pending reply `p` passed at time `now`? -/
def slotDue (t : TBus) (T now : Nat) (p : Pending) : Bool := t.slotBorn.any fun e => e.1 == p && decide (e.2 + T ≤ now)

theorem slotDue_iff (t : TBus) (T now : Nat) (p : Pending) : slotDue t T now p = true ↔ ∃ b, (p, b) ∈ t.slotBorn ∧ b + T ≤ now :=
  any_due_iff ..

/-- **The reply timeout runs from the moment the call was delivered.** When `dt` milliseconds pass,
    the first thing the bus does is expire exactly the pending replies whose stamp lies `T` or more
    behind the new time — each of their callers gets its NoReply — and no other pending reply is
    touched; later calls, replies or disconnects of other connections have not moved any deadline
    (`stampSlots_keeps`). -/
theorem reply_deadline_is_fixed (tbl : List IfaceRow) (t : TBus) (T dt : Nat) (hT : t.replyTimeout = some T) :
    ∃ x : ATx, (stepT tbl t (.advance dt)).2.head? = some x ∧
      x.t.bus.pending = t.a.core.pending.filter (fun p => !slotDue t T (t.now + dt) p) ∧
      ∃ l, x.t.out = l ∧ l.Sublist ((t.a.core.pending.filter (slotDue t T (t.now + dt))).map
        (noReplyFor { t.a.core with pending := x.t.bus.pending })) := by
  refine ⟨_, advance_first_tx tbl t dt, ?_⟩
  -- what is due by the stamps is what `dueSlots` hands to the core
  have hdue : (fun p => (dueSlots { t with now := t.now + dt } (t.now + dt)).contains p) = slotDue t T (t.now + dt) := funext fun p =>
    Bool.eq_iff_iff.mpr (List.contains_iff_mem.trans ((mem_dueSlots _ T _ hT p).trans (slotDue_iff ..).symm))
  rw [show (stepA tbl t.a (.core (.expire (dueSlots { t with now := t.now + dt } (t.now + dt))))).t =
      expireWhere t.a.core (slotDue t T (t.now + dt)) by rw [← hdue]; rfl]
  obtain ⟨h1, l, hl, hs⟩ := expire_due_one_noreply_each t.a.core (slotDue t T (t.now + dt))
  exact ⟨h1, l, hl, by rw [h1]; exact hs⟩

/-- a call younger than the timeout is not touched when time passes (its stamp is the only one recorded
    for its slot: slots are never duplicated, `pending_never_duplicated`) -/
theorem young_call_survives (tbl : List IfaceRow) (t : TBus) (T dt : Nat) (hT : t.replyTimeout = some T) (p : Pending) (b : Nat)
    (hp : p ∈ t.a.core.pending) (hb : ∀ b', (p, b') ∈ t.slotBorn → b' = b) (hyoung : t.now + dt < b + T) :
    ∃ x : ATx, (stepT tbl t (.advance dt)).2.head? = some x ∧ p ∈ x.t.bus.pending := by
  obtain ⟨x, hx, hmem, _⟩ := reply_deadline_is_fixed tbl t T dt hT
  refine ⟨x, hx, ?_⟩
  rw [hmem, List.mem_filter]
  refine ⟨hp, ?_⟩
  cases hs : slotDue t T (t.now + dt) p with
  | false => rfl
  | true =>
    obtain ⟨b', hb', hle⟩ := (slotDue_iff t T (t.now + dt) p).mp hs
    rw [hb b' hb'] at hle
    omega

/-- without a reply timeout (the session bus default) time passing expires nothing -/
theorem no_reply_timeout_nothing_expires (tbl : List IfaceRow) (t : TBus) (dt : Nat) (hT : t.replyTimeout = none) :
    ∃ x : ATx, (stepT tbl t (.advance dt)).2.head? = some x ∧ x.t.bus.pending = t.a.core.pending ∧ x.t.out = [] := by
  refine ⟨_, advance_first_tx tbl t dt, ?_⟩
  rw [dueSlots_never { t with now := t.now + dt } (t.now + dt) hT]
  show (expireWhere t.a.core (fun p => ([] : List Pending).contains p)).bus.pending = _ ∧ (expireWhere t.a.core (fun p => ([] : List Pending).contains p)).out = []
  unfold expireWhere
  have h1 : t.a.core.pending.filter (fun p => ([] : List Pending).contains p) = [] := by
    apply List.filter_eq_nil_iff.mpr; intro p _; simp
  have h2 : t.a.core.pending.filter (fun p => !([] : List Pending).contains p) = t.a.core.pending := by
    apply List.filter_eq_self.mpr; intro p _; simp
  rw [h1, h2]
  exact ⟨rfl, rfl⟩

/-! ### the same over whole histories with activation and time -/

/-- what the clock layer keeps in every reachable state: one stamp per pending reply, in step with the
    list of pending replies, and no slot recorded twice -/
def TimedInv (t : TBus) : Prop := t.slotBorn.map (·.1) = t.a.core.pending ∧ t.a.core.pending.Nodup

/-- in every state reachable with activation and time, from a bus nobody has connected to yet -/
theorem timedInv_run (tbl : List IfaceRow) (evs : List TEv) (t0 : TBus) (h0 : TimedInv t0) : TimedInv (runT tbl t0 evs).1 :=
  runT_inv tbl (fun t e h => ⟨next_slots_track t _, lvA_step pend_leaves tbl t.a e h.2⟩) (fun _ _ h => h) evs t0 h0

/-- **In every reachable state, a call younger than the reply timeout survives the passing of time**:
    `young_call_survives` with its side conditions discharged by the invariant. -/
theorem young_call_survives_reachable (tbl : List IfaceRow) (evs : List TEv) (t0 : TBus) (h0 : TimedInv t0) (T dt : Nat)
    (hT : (runT tbl t0 evs).1.replyTimeout = some T) (p : Pending) (b : Nat)
    (hb : (p, b) ∈ (runT tbl t0 evs).1.slotBorn) (hyoung : (runT tbl t0 evs).1.now + dt < b + T) :
    ∃ x : ATx, (stepT tbl (runT tbl t0 evs).1 (.advance dt)).2.head? = some x ∧ p ∈ x.t.bus.pending := by
  have hi := timedInv_run tbl evs t0 h0
  have hp : p ∈ (runT tbl t0 evs).1.a.core.pending := by
    rw [← hi.1]; exact List.mem_map.mpr ⟨(p, b), hb, rfl⟩
  exact young_call_survives tbl _ T dt hT p b hp (fun b' hb' => (Prod.mk.inj (inj_of_nodup_map Prod.fst (by rw [hi.1]; exact hi.2) hb' hb rfl)).2) hyoung

/-- the hypotheses are met: a call recorded at time 0 under an 800 s timeout survives 700 s and is gone after 900 s -/
example : let t : TBus := { a := { core := { pending := [slot 1 2 7] } }, replyTimeout := some 800000, slotBorn := [(slot 1 2 7, 0)] }
    ((stepT [] t (.advance 700000)).1.a.core.pending = [slot 1 2 7]) ∧ ((stepT [] t (.advance 900000)).1.a.core.pending = []) := by
  decide

/-- **No slot outlives its caller or its callee**: in every reachable state of the bus each pending reply is between two
    connected clients, neither of them a monitor. (So every slot ends in one of the three ways proved above: the callee's
    reply consumes it, it expires, or one of the two disconnects - `callee_gone_one_noreply_each`.) -/
theorem slots_between_connected_clients (tbl : List IfaceRow) (l : Limits) (p : Policy) (evs : List Ev) :
    ∀ e ∈ (run tbl { limits := l, policy := p } evs).1.pending,
      (e.caller ∈ (run tbl { limits := l, policy := p } evs).1.conns.map (·.id) ∧
       e.callee ∈ (run tbl { limits := l, policy := p } evs).1.conns.map (·.id)) ∧
      ∀ x ∈ (run tbl { limits := l, policy := p } evs).1.conns, x.monitor = true → e.caller ≠ x.id ∧ e.callee ≠ x.id := by
  intro e he
  have hg := good_run tbl (good_init l p) evs
  exact ⟨hg.plive e he, fun x hx hm => involves_eq_false.mp (hg.quiet x hx hm e he)⟩

end Dbus.Props.C09
