import Dbus.Proofs.Bus.Fds
/-
  C15 — passed file descriptors arrive intact and are never leaked.

  Descriptors are tokens; `fdRun tbl n ops` is the bus after any history of clients connecting, writing
  bytes with descriptors attached (one sendmsg each, any framing, any number of descriptors, announced
  counts smaller, equal or larger than what is attached), closing, and timeouts.  `closed` is the log of
  every token the bus side has closed (or that the kernel discarded because the connection did not
  negotiate descriptor passing); recipients hold the kernel's copies and are outside this ledger.
-/
namespace Dbus.Props.C15
open Dbus.Model Dbus.Model.Bus Dbus.Proofs.Bus

def start (mx : Nat) (l : Limits) (p : Policy) : FdNet := { net := { bus := { limits := l, policy := p } }, maxMsgFds := mx }

theorem start_inv (mx : Nat) (l : Limits) (p : Policy) : FdInv [] (start mx l p) :=
  fdInv_init mx { bus := { limits := l, policy := p } } rfl

/-- **Nothing is leaked and nothing is closed twice**: after any history, the tokens handed to the bus are
    exactly — as a multiset — those it has closed plus those still pending in the loaders of connected
    clients; so if the tokens were distinct, no token has been closed twice. -/
theorem every_descriptor_closed_exactly_once_or_pending (tbl : List IfaceRow) (mx : Nat) (l : Limits) (p : Policy)
    (ops : List FdOp) :
    (received ops).Perm ((fdRun tbl (start mx l p) ops).closed ++ (fdRun tbl (start mx l p) ops).allPending) ∧
    ((received ops).Nodup → (fdRun tbl (start mx l p) ops).closed.Nodup) := by
  have h := (fdInv_run tbl ops (start_inv mx l p)).conserved
  simp only [List.nil_append] at h
  refine ⟨h, fun hn => ?_⟩
  have := (List.Perm.nodup_iff h).mp hn
  exact (List.nodup_append.mp this).1

/-- **Surplus descriptors are held only for a live connection, within its limit**: whatever is pending belongs
    to a connection that is still connected, and is at most max_message_unix_fds per connection. -/
theorem pending_only_for_live_connections_within_limit (tbl : List IfaceRow) (mx : Nat) (l : Limits) (p : Policy)
    (ops : List FdOp) :
    ∀ q ∈ (fdRun tbl (start mx l p) ops).pending,
      ((fdRun tbl (start mx l p) ops).net.bus.conn? q.1).isSome ∧ q.2.length ≤ mx :=
  held_run tbl ops (start_inv mx l p)

/-- **Back to the baseline**: once every connection is gone, nothing is pending, so every token the bus ever
    received has been closed. -/
theorem baseline_once_everyone_has_left (tbl : List IfaceRow) (mx : Nat) (l : Limits) (p : Policy) (ops : List FdOp)
    (hgone : (fdRun tbl (start mx l p) ops).net.bus.conns = []) :
    (received ops).Perm (fdRun tbl (start mx l p) ops).closed := by
  have h := (every_descriptor_closed_exactly_once_or_pending tbl mx l p ops).1
  -- whatever were pending would belong to a connection that is still there
  have hnone : (fdRun tbl (start mx l p) ops).pending = [] := List.eq_nil_iff_forall_not_mem.mpr fun q hq => by
    simpa [Bus.conn?, hgone] using (pending_only_for_live_connections_within_limit tbl mx l p ops q hq).1
  simpa [FdNet.allPending, hnone] using h

/-- **A message gets exactly the descriptors it announces, in arrival order**: each message framed from a write
    takes from the front of what is pending (older surplus first, then what arrived with this write) exactly the
    number in its UNIX_FDS header field — the loader has already rejected a message announcing more than is
    there — and what is left stays pending in the same order. -/
theorem message_gets_announced_descriptors_in_order (tbl : List IfaceRow) (mx : Nat) (l : Limits) (p : Policy)
    (ops : List FdOp) (c : ConnId) (bytes : Bytes) (fds : List Fd) :
    let n := fdRun tbl (start mx l p) ops
    let new := (Loader.feed n.net.maxMsg { n.net.loader c with fds := (n.net.loader c).fds + fds.length } bytes).msgs.drop
                  (n.net.loader c).msgs.length
    (∀ q ∈ (assign (n.pendingOf c ++ fds) new).1, q.2.length = q.1.nFds) ∧
    (assign (n.pendingOf c ++ fds) new).1.flatMap (·.2) ++ (assign (n.pendingOf c ++ fds) new).2 = n.pendingOf c ++ fds := by
  intro n new
  have hs := (fdInv_run tbl ops (start_inv mx l p)).sync
  exact ⟨(fdWrite_sync tbl c bytes fds hs).2, assign_conserve _ _⟩

/-- **Only where negotiated**: a message carrying descriptors is never handed to a connection that did not
    negotiate descriptor passing — as the addressed recipient the sender gets an error instead … -/
theorem addressed_recipient_must_have_negotiated (t : Tx) (s : Option ConnId) (a : ConnId) (m : Msg)
    (hm : m.nFds > 0) (hc : canFdOf t.bus a = false) : ∃ e, (sendAddressed t s a m).2 = some e :=
  sendAddressed_cases (P := fun r => ∃ e, r.2 = some e) rfl (fun e _ => ⟨e, rfl⟩) (fun _ _ => ⟨_, rfl⟩)
    fun _ hf => by simp [hm, hc] at hf

/-- … and as a match-rule recipient it is skipped (nothing is queued for it). -/
theorem matched_recipient_must_have_negotiated (t : Tx) (s a : Option ConnId) (to : ConnId) (m : Msg)
    (hm : m.nFds > 0) (hc : canFdOf t.bus to = false) :
    ∃ q e, sendOne t s a to m = captureError (t.setPending q) s m e :=
  sendOne_cases (P := fun r => ∃ q e, r = captureError (t.setPending q) s m e) rfl (fun e _ => ⟨_, e, rfl⟩)
    (fun _ _ => ⟨_, _, rfl⟩) fun _ hf => by simp [hm, hc] at hf

/-- **Too many at once cost the sender its connection, not a leak**: more descriptors in one sendmsg than the
    loader has room for are all closed and the connection is dropped. -/
theorem overflow_closes_everything (tbl : List IfaceRow) (n : FdNet) (c : ConnId) (x : Conn) (bytes : Bytes) (fds : List Fd)
    (hx : n.net.bus.conn? c = some x) (hcan : x.canFd = true) (hover : fds.length > n.maxMsgFds - (n.pendingOf c).length) :
    ∃ t, (fdStep tbl n (.write c bytes fds)) =
      (({ n with net := { n.net with bus := (step tbl n.net.bus (.invalid c)).bus }, closed := n.closed ++ fds } : FdNet).sweep, [(t, [])]) := by
  simp only [fdStep, hx, hcan, Bool.true_and, decide_eq_true_eq, hover, if_true]
  exact ⟨_, rfl⟩

/-- **Surplus is held only until the pending-descriptor timeout**: when it has passed, every connection that held
    descriptors without a message has been dropped, and nothing is pending (so, by conservation, all of it is closed). -/
theorem pending_timeout_leaves_nothing_pending (tbl : List IfaceRow) (n : FdNet) :
    (fdStep tbl n .pendingTimeout).1.allPending = [] := by
  simp only [fdStep, FdNet.sweep, FdNet.allPending]
  rw [List.flatMap_eq_nil_iff]
  intro p hp
  obtain ⟨hp1, hp2⟩ := List.mem_filter.mp hp
  cases hq : p.2 with
  | nil => rfl
  | cons a as =>
    -- `p.1` held something, so it was dropped
    have hmem : p.1 ∈ (n.pending.filter (fun p => !p.2.isEmpty)).map (·.1) :=
      List.mem_map.mpr ⟨p, List.mem_filter.mpr ⟨hp1, by simp [hq]⟩, rfl⟩
    rw [dropAll_gone tbl _ hmem] at hp2
    cases hp2

end Dbus.Props.C15
