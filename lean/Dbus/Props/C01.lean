import Dbus.Proofs.MessageLevel
/-
  C01 — untrusted bytes become a message only if spec-valid, and always safely.
-/
namespace Dbus.Props.C01
open Dbus.Spec Dbus.Model Dbus.Proofs.Wire

/-- **Soundness / canonicity.** Whatever the decoder accepts as a value of type `t` is exactly
    the specification's encoding of the value it returns (so no second byte string decodes to
    the same value at that offset), and the value is well-formed: typed, booleans 0/1, strings
    valid UTF-8 / paths / signatures, padding zero, array ≤ 2^26 bytes, nesting ≤ 64. -/
theorem decode_accepts_only_encodings (e : Endian) (g d : Nat) (t : Ty) (off : Nat) (bs : Bytes) (v : Val) (r : Bytes)
    (h : decode e g d t off bs = some (v, r)) :
    bs = encode e off v ++ r ∧ WFVal e d off v t :=
  (decode_sound e g).1 _ _ _ _ _ _ h

/-- **Completeness.** The encoding of every well-formed value is accepted, whatever follows
    it, and reads back as that value; the fuel the loader passes (`fuelFor`) is enough. -/
theorem decode_encode (e : Endian) (v : Val) (t : Ty) (off : Nat) (r : Bytes) (n : Nat)
    (h : WFVal e 0 off v t) (hn : (encode e off v).length ≤ n) :
    decode e (fuelFor n) 0 t off (encode e off v ++ r) = some (v, r) := by
  apply decode_complete e v t 0 off r _ h
  have := need_le e v t 0 off h
  unfold fuelFor; omega

/-- **Accepts iff spec-valid** for a sequence of values of the given types (a message body or
    the header seen as a body): accepted exactly when the bytes are the encoding of
    well-formed values of those types followed by the remainder. -/
theorem decodeFields_iff (e : Endian) (ts : List Ty) (bs : Bytes) (vs : List Val) (r : Bytes) :
    decodeFields e (fuelFor bs.length) 0 ts 0 bs = some (vs, r) ↔
      (bs = encodeList e 0 vs ++ r ∧ WFFields e 0 0 vs ts) :=
  Dbus.Proofs.Wire.decodeFields_iff e ts bs vs r

/-- **Prefix stability** (used by C11): what is accepted, and how many bytes it consumed, does
    not depend on the bytes that follow. -/
theorem validate_prefix_stable (e : Endian) (ts : List Ty) (a b : Bytes) (vs : List Val) (r : Bytes)
    (h : decodeFields e (fuelFor a.length) 0 ts 0 a = some (vs, r)) :
    decodeFields e (fuelFor (a ++ b).length) 0 ts 0 (a ++ b) = some (vs, r ++ b) :=
  Dbus.Proofs.Wire.validate_prefix_stable e ts a b vs r h

/-- … and conversely: if the longer buffer is accepted using only bytes of the shorter one,
    the shorter one is accepted with the same values. -/
theorem validate_prefix_reflects (e : Endian) (ts : List Ty) (a b : Bytes) (vs : List Val) (r : Bytes)
    (h : decodeFields e (fuelFor (a ++ b).length) 0 ts 0 (a ++ b) = some (vs, r))
    (hlen : (encodeList e 0 vs).length ≤ a.length) :
    ∃ r', r = r' ++ b ∧ decodeFields e (fuelFor a.length) 0 ts 0 a = some (vs, r') :=
  Dbus.Proofs.Wire.validate_prefix_reflects e ts a b vs r h hlen

/-- non-vacuity: a struct holding a byte, an array of u16 and a variant is well-formed (so
    the hypotheses of `decode_encode` are satisfiable by a nested value) in both byte orders -/
example (e : Endian) :
    WFVal e 0 0 (.struct [.fixed .byte 9, .array (.basic .u16) [.fixed .u16 7, .fixed .u16 65535],
                          .variant (.basic .bool) (.fixed .bool 1)])
      (.struct [.basic .byte, .array (.basic .u16), .variant]) := by
  simp [WFVal, WFFields, WFElems, BTy.isFixed, BTy.fixedSize, BTy.size, Ty.isFixed, MAX_VALUE_DEPTH,
    MAX_ARRAY_LENGTH, Ty.WF, Ty.DepthLax, Ty.maxRun, Ty.structDepth, Ty.dictDepth, MAX_TYPE_DEPTH,
    encodeList, encode, encNat_length, Ty.print, BTy.code, pad, padLen, BTy.align, Ty.align]

end Dbus.Props.C01

namespace Dbus.Props.C01
open Dbus.Model Dbus.Proofs.Message

/-- **Accepts iff spec-valid, message level.** The parser yields a message from the front of a
    buffer exactly when the buffer starts with the wire image of a well-formed message
    (`WFMsg`: marshalling, header-field, size and nesting rules), and then it yields *that*
    message, consuming exactly its image. Holds for every byte string, both byte orders, every
    maximum size and descriptor count. -/
theorem demarshal_accepts_iff_spec (mx fds : Nat) (bs : Bytes) (m : Msg) (n : Nat) :
    loadOne true mx fds bs = .ok m n ↔
      (WFMsg mx fds m ∧ n = (encodeMsg m).length ∧ ∃ rest, bs = encodeMsg m ++ rest) := by
  constructor
  · intro h
    obtain ⟨hn, htake, hwf⟩ := loadOne_sound h
    exact ⟨hwf, by rw [← htake, List.length_take_of_le hn], bs.drop n, by rw [← htake, List.take_append_drop]⟩
  · rintro ⟨hwf, rfl, rest, rfl⟩
    exact loadOne_encodeMsg hwf rest

/-- **Accessors equal an independent decoding**: a second, independent decoding of the accepted
    bytes (re-encoding the returned message and loading it again, on its own) gives the same
    header fields and body values. -/
theorem accessors_eq_independent_decoding (mx fds : Nat) (bs : Bytes) (m : Msg) (n : Nat)
    (h : loadOne true mx fds bs = .ok m n) :
    loadOne true mx fds (bs.take n) = .ok m n := by
  have hn := (loadOne_sound h).1
  exact loadOne_ok_of_take h (Nat.le_of_eq (List.length_take_of_le hn).symm) (by rw [List.take_take, Nat.min_self])

/-- **Limits are exact**: a message whose total size exceeds the loader's maximum is never
    accepted; one within it is not refused for its size. (The 2^26 array and 64-level nesting
    limits are clauses of `WFVal`; 255-byte names and signatures of the C16 predicates.) -/
theorem message_size_limit (mx fds : Nat) (bs : Bytes) (m : Msg) (n : Nat)
    (h : loadOne true mx fds bs = .ok m n) : n ≤ mx := by
  obtain ⟨hwf, hn, _⟩ := (demarshal_accepts_iff_spec mx fds bs m n).1 h
  rw [hn, encodeMsg_length]
  exact hwf.total_le

end Dbus.Props.C01
