import Dbus.Proofs.Bus.GenericA
import Dbus.Proofs.Bus.MonInv
/-
  C04 — name ownership follows the specification's state machine.

  `Dbus.Spec.Names` is the specification (written from doc/dbus-specification.xml);
  `Dbus.Model.Bus.Registry` is the model of bus/services.c.  The theorems compare the two for every
  queue, caller and flag word, and lift the comparison to every state the bus can reach.
-/
namespace Dbus.Props.C04
open Dbus.Model Dbus.Model.Bus Dbus.Proofs.Bus Dbus.Spec.Names

/-! ### the queue algebra against the specification (all queues, all callers, all flag words) -/

theorem requestName_queue (os : List Owner) (c flags : Nat) (hi : QInv os) (hj : ¬ QueueJump os c flags) :
    (qAcquire os c flags).1 = requestName os c (flagAllow flags) (flagReplace flags) (flagNoQueue flags) :=
  (qAcquire_spec os c flags hi).1 hj

/-- In every case the reply code is the specification's. -/
theorem requestName_reply (os : List Owner) (c flags : Nat) (hi : QInv os) :
    (qAcquire os c flags).2.1 = requestReply os c (flagAllow flags) (flagReplace flags) (flagNoQueue flags) :=
  (qAcquire_spec os c flags hi).2.1

/-- NameLost / NameOwnerChanged / NameAcquired are exactly those a change of
    primary owner calls for, in that order, addressed to the old and the new owner. -/
theorem requestName_signals (os : List Owner) (c flags : Nat) (hi : QInv os) :
    (qAcquire os c flags).2.2.map sigSpec = signals (primary os) (primary (qAcquire os c flags).1) :=
  (qAcquire_spec os c flags hi).2.2.1

theorem releaseName_queue_and_reply (os : List Owner) (c : Nat) (hi : QInv os) :
    (qRelease os c).1 = releaseName os c ∧ (qRelease os c).2.1 = releaseReply os c :=
  qRelease_eq_spec os c hi

theorem releaseName_signals (os : List Owner) (c : Nat) (hi : QInv os) :
    (qRelease os c).2.2.map sigSpec = signals (primary os) (primary (qRelease os c).1) := by
  cases os with
  | nil => rfl
  | cons p rest =>
    cases hm : inQueue (p :: rest) c
    · simp [qRelease, hm, signals]
    · simp only [qRelease, hm, Bool.not_true, Bool.false_eq_true, if_false]
      exact qRemove_signals_eq_spec _ c hi

theorem disconnect_queue (os : List Owner) (c : Nat) (hi : QInv os) : (qRemove os c).1 = releaseName os c :=
  qRemove_eq_spec os c hi

theorem disconnect_signals (os : List Owner) (c : Nat) (hi : QInv os) :
    (qRemove os c).2.map sigSpec = signals (primary os) (primary (qRemove os c).1) :=
  qRemove_signals_eq_spec os c hi

/-- the one recorded departure (F15): REPLACE_EXISTING that cannot replace still jumps the queue;
    the primary owner is the specification's all the same -/
theorem queue_jump_same_primary (os : List Owner) (c flags : Nat) (hi : QInv os) (hj : QueueJump os c flags) :
    primary (qAcquire os c flags).1 =
      primary (requestName os c (flagAllow flags) (flagReplace flags) (flagNoQueue flags)) := by
  obtain ⟨p, rest, rfl, hpc, hr, hn, ha⟩ := hj
  rw [qAcquire_cons hpc, requestName_cons hpc (qinv_cons.mp hi).2.2]
  simp [ha, hn, primary]

/-- … but the waiting order is not: a concrete queue on which the bus puts the caller ahead of an
    earlier waiter where the specification appends it. (1 owns without allowing replacement,
    2 waits, 3 asks with REPLACE_EXISTING.) -/
theorem f15_witness :
    let os : List Owner := [⟨1, false, false⟩, ⟨2, false, false⟩]
    QInv os ∧ QueueJump os 3 2 ∧
    (qAcquire os 3 2).1 = [⟨1, false, false⟩, ⟨3, false, false⟩, ⟨2, false, false⟩] ∧
    requestName os 3 (flagAllow 2) (flagReplace 2) (flagNoQueue 2) =
      [⟨1, false, false⟩, ⟨2, false, false⟩, ⟨3, false, false⟩] := by
  refine ⟨⟨by decide, by decide⟩, ⟨_, _, rfl, by decide, by decide, by decide, rfl⟩, by decide, by decide⟩

/-- In every state the bus can reach, every name's queue has no connection twice and nobody but
    the primary owner holds DO_NOT_QUEUE; a registered name has an owner; names are registered once.
    ("A name never has two primary owners": the primary owner is the head of the one queue.) -/
theorem queues_well_formed (tbl : List IfaceRow) (l : Limits) (p : Policy) (evs : List Ev) :
    let b := (run tbl { limits := l, policy := p } evs).1
    (b.services.map (·.name)).Nodup ∧ ∀ s ∈ b.services, s.owners ≠ [] ∧ QInv s.owners := by
  intro b
  have := servicesInv_run tbl l p evs
  exact ⟨this.names_nodup, this.queues⟩

/-- … and the same with service activation (names taken by started services, held messages going out,
    failed starts) and with time (`runT`) -/
theorem queues_well_formed_with_activation_and_time (tbl : List IfaceRow) (l : Limits) (p : Policy) (t0 : TBus)
    (h0 : t0.a.core = { limits := l, policy := p }) (evs : List TEv) :
    let b := (runT tbl t0 evs).1.a.core
    (b.services.map (·.name)).Nodup ∧ ∀ s ∈ b.services, s.owners ≠ [] ∧ QInv s.owners := by
  intro b
  have : ServicesInv b := invariant_of_leaves_T services_leaves tbl evs t0 (h0 ▸ servicesInv_init l p)
  exact ⟨this.names_nodup, this.queues⟩

/-- so the hypothesis of the queue theorems holds for the queue the bus looks up, for every name -/
theorem looked_up_queue_ok (tbl : List IfaceRow) (l : Limits) (p : Policy) (evs : List Ev) (n : Bytes) :
    QInv (ownersOf (run tbl { limits := l, policy := p } evs).1 n) :=
  ownersOf_qinv (servicesInv_run tbl l p evs) n

/-- the bus's own name and unique names can be neither requested … -/
theorem reserved_names_not_requestable (t : Tx) (c : ConnId) (n : Bytes) (flags : Nat)
    (h : n = BUS_NAME ∨ n.head? = some 0x3a) : acquire t c n flags = (t, .error .invalidArgs) := by
  unfold acquire
  -- the test for such a name fires unless an earlier one has, and all three answer alike
  rcases h with rfl | h <;> simp [*]

/-- … nor released -/
theorem reserved_names_not_releasable (t : Tx) (c : ConnId) (n : Bytes)
    (h : n = BUS_NAME ∨ n.head? = some 0x3a) : release t c n = (t, .error .invalidArgs) := by
  unfold release
  rcases h with rfl | h <;> simp [*]

/-- a refused RequestName (bad name, policy, limit) changes nothing -/
theorem refused_request_changes_nothing (t : Tx) (c : ConnId) (n : Bytes) (flags : Nat) (e : Err)
    (h : (acquire t c n flags).2 = .error e) : (acquire t c n flags).1 = t :=
  acquire_cases (P := fun r => r.2 = .error e → r.1 = t) t c n flags (fun _ _ => rfl) (fun _ h => nomatch h) h

/-- the reply to RequestName is queued after the signals the request caused -/
theorem reply_after_signals (t : Tx) (c : ConnId) (m : Msg) :
    ∃ l, (runMethod t c m .requestName).1.out = (acquire t c (arg0 m) (arg1Nat m)).1.out ++ l := by
  simp only [runMethod]
  rcases hr : acquire t c (arg0 m) (arg1Nat m) with ⟨t1, r⟩
  cases r with
  | error e => exact ⟨[], by simp⟩
  | ok code =>
    obtain ⟨l, hl, _⟩ := (step_reply (c := c) t1 c m [tU32] [.fixed .u32 code]).out
    exact ⟨l, hl⟩

/-- GetNameOwner answers with the head of the queue -/
theorem getNameOwner_reports_primary (t : Tx) (c : ConnId) (m : Msg) (o : ConnId)
    (h : t.bus.primary? (arg0 m) = some o) :
    runMethod t c m .getNameOwner = (reply t c m [tStr] [sStr (t.bus.uniqueOrEmpty o)], none) := by
  simp [runMethod, h]

/-- ListQueuedOwners answers with the queue, in order -/
theorem listQueuedOwners_reports_queue (t : Tx) (c : ConnId) (m : Msg) (o : Owner) (os : List Owner)
    (h : ownersOf t.bus (arg0 m) = o :: os) :
    runMethod t c m .listQueuedOwners =
      (reply t c m [.array tStr] [.array tStr ((o :: os).map fun x => sStr (t.bus.uniqueOrEmpty x.conn))], none) := by
  simp [runMethod, h]

/-- NameHasOwner answers whether the name is registered (the bus's own name always is) -/
theorem nameHasOwner_reports_registry (t : Tx) (c : ConnId) (m : Msg) :
    runMethod t c m .nameHasOwner =
      (reply t c m [.basic .bool]
        [.fixed .bool (if (arg0 m == BUS_NAME || (t.bus.service? (arg0 m)).isSome) then 1 else 0)], none) := by
  simp [runMethod]

/-- non-vacuity: a reachable queue to which the main theorem applies -/
example : QInv [(⟨1, true, false⟩ : Owner), ⟨2, false, false⟩] ∧ ¬ QueueJump [⟨1, true, false⟩, ⟨2, false, false⟩] 3 2 := by
  refine ⟨⟨by decide, by decide⟩, ?_⟩
  rintro ⟨p, rest, h, _, _, _, ha⟩
  simp only [List.cons.injEq] at h
  rw [← h.1] at ha
  cases ha

/-- **Only connected clients own or wait for names**: whoever stands in any queue of any reachable state is a connected
    connection (and no monitor) - a disconnect, and BecomeMonitor, really take the connection out of every queue. -/
theorem queue_members_are_connected (tbl : List IfaceRow) (l : Limits) (p : Policy) (evs : List Ev) :
    ∀ s ∈ (run tbl { limits := l, policy := p } evs).1.services, ∀ d, inQueue s.owners d = true →
      ∃ x ∈ (run tbl { limits := l, policy := p } evs).1.conns, x.id = d ∧ x.monitor = false :=
  (good_run tbl (good_init l p) evs).reg.live

/-- the connection's own list of names (`services_owned`, which the disconnect path walks) covers every queue it stands in -/
theorem owned_names_cover_queues (tbl : List IfaceRow) (l : Limits) (p : Policy) (evs : List Ev) :
    ∀ x ∈ (run tbl { limits := l, policy := p } evs).1.conns, ∀ s ∈ (run tbl { limits := l, policy := p } evs).1.services,
      inQueue s.owners x.id = true → s.name ∈ x.owned :=
  (good_run tbl (good_init l p) evs).reg.sync

/-- so that when a connection goes (close, invalid bytes, a monitor that speaks) it stands in no queue afterwards -/
theorem gone_connection_in_no_queue (tbl : List IfaceRow) (l : Limits) (p : Policy) (evs : List Ev) (c : ConnId) :
    ∀ s ∈ (run tbl { limits := l, policy := p } (evs ++ [.close c])).1.services, inQueue s.owners c = false := by
  intro s hs
  rw [Bool.eq_false_iff]
  intro hq
  have hg := good_run tbl (good_init l p) (evs ++ [.close c])
  obtain ⟨x, hx, hxid, _⟩ := hg.reg.live s hs c hq
  -- the closed connection is not among the connections any more
  rw [run_snoc] at hx
  exact disconnect_gone _ c x hx hxid

end Dbus.Props.C04
