import Dbus.Proofs.PendingCalls
/-
  C17 — every call awaiting a reply completes exactly once.
-/
namespace Dbus.Props.C17
open Dbus.Model.PC Dbus.Proofs.PC

theorem inv_run (h : List Ev) : Proofs.PC.Inv (run h) :=
  List.foldlRecOn h step (fun _ hc => nomatch hc) fun st hs ev _ => inv_step st ev hs

/-- **At most once**: in every history (any interleaving of replies, duplicates, stray replies,
    timeouts, cancels, blocking waits, dispatch steps and a peer close at any moment) no call's
    notify function runs twice, and a call that has not completed has not been notified. -/
theorem completes_at_most_once (h : List Ev) : ∀ c ∈ (run h).calls,
    c.notified ≤ 1 ∧ (c.completed = none → c.notified = 0) := by
  intro c hc
  obtain ⟨_, h2, h3, _⟩ := inv_run h c hc
  exact ⟨h3, h2⟩

/-- **A cancelled call is never notified** (cancelled before it completed): it stays
    uncompleted and un-notified in every continuation of the history. -/
theorem cancelled_never_notified (h : List Ev) : ∀ c ∈ (run h).calls,
    c.cancelled = true → c.completed = none ∧ c.notified = 0 := by
  intro c hc hcan
  obtain ⟨_, h2, _, h4⟩ := inv_run h c hc
  exact ⟨h4 hcan, h2 (h4 hcan)⟩

/-- **A reply is never paired with a different call**: dispatch completes call `i` only with a
    message whose REPLY_SERIAL is that call's serial, and only while the call is attached. -/
theorem reply_matches_serial (cs : List Call) (rs i : Nat) (h : findBySerial cs rs = some i) :
    ∃ c, cs[i]? = some c ∧ c.serial = rs ∧ c.inTable = true := by
  obtain ⟨c, h1, h2, h3⟩ := findBySerial_some h
  exact ⟨c, h1, h3, h2⟩

/-- the counter after `k` allocations starting from the initial value 1 -/
def counterAfter : Nat → Nat
  | 0 => 1
  | k + 1 => (nextSerial (counterAfter k)).2

theorem counterAfter_eq (k : Nat) : counterAfter k = k % (SERIAL_MOD - 1) + 1 := by
  induction k with
  | zero => rfl
  | succ k ih =>
    have hlt : k % (SERIAL_MOD - 1) < SERIAL_MOD - 1 := Nat.mod_lt _ (by decide)
    rw [counterAfter, ih, nextSerial, succ_skip_zero _ _ (Nat.add_lt_of_lt_sub hlt),
      Nat.mod_add_mod]

/-- the `k`-th serial handed out by a connection -/
def serialAt (k : Nat) : Nat := (nextSerial (counterAfter k)).1

theorem serialAt_eq (k : Nat) : serialAt k = k % (SERIAL_MOD - 1) + 1 := counterAfter_eq k

/-- **Serials are non-zero**, for ever (also after the 32-bit counter wraps). -/
theorem serial_nonzero (k : Nat) : serialAt k ≠ 0 := by
  rw [serialAt_eq]
  exact Nat.succ_ne_zero _

/-- **Serials are distinct until the counter wraps**: the first 2^32 − 1 serials are pairwise
    different (and each fits in 32 bits). -/
theorem serials_distinct_before_wrap (j k : Nat) (hj : j < SERIAL_MOD - 1) (hk : k < SERIAL_MOD - 1)
    (h : serialAt j = serialAt k) : j = k := by
  rw [serialAt_eq, serialAt_eq, Nat.mod_eq_of_lt hj, Nat.mod_eq_of_lt hk] at h
  exact Nat.succ.inj h

theorem serial_fits (k : Nat) : serialAt k < SERIAL_MOD := by
  rw [serialAt_eq]
  exact Nat.add_lt_of_lt_sub (Nat.mod_lt _ (by decide))

/-- non-vacuity / the recorded defect F11 as a theorem about the model: after the peer closes,
    a call waited on by a notify callback is never completed although its NoReply error was
    queued — it reaches the filters instead. -/
theorem f11_witness :
    let st := run [.send true true, .closePeer, .pump, .dispatch, .dispatch, .dispatch]
    (st.calls.map (·.completed)) = [none] ∧ (st.calls.map (·.notified)) = [0] ∧
    st.toFilters = [{ rs := 1, kind := .timeoutError }, { rs := 0, kind := .disconnected }] := by
  decide

/-- … whereas a reply, a fired timeout or a blocking wait complete it exactly once -/
theorem completes_by_reply_timeout_block :
    ((run [.send true true, .peer 1 42, .pump, .dispatch]).calls.map (fun c => (c.completed, c.notified))
        = [(some (.byReply 42), 1)]) ∧
    ((run [.send true true, .fire 0, .dispatch]).calls.map (fun c => (c.completed, c.notified))
        = [(some .byTimeoutError, 1)]) ∧
    ((run [.send false true, .closePeer, .block 0]).calls.map (fun c => (c.completed, c.notified))
        = [(some .byTimeoutError, 1)]) := by
  decide

/-- **Pairing by serial is never ambiguous**: as long as the application leaves serials to the connection and the 32-bit
    counter has not wrapped, the calls a connection has registered carry pairwise distinct serials - whatever came in
    between: replies, timeouts, cancels, blocking waits, the peer closing, and sends that *failed* after the message had
    been given its serial and were tried again with the very same message (`sendFail`, `retry`): the serial such a message
    keeps has been used up, nobody else gets it. -/
theorem registered_serials_distinct (h : List Ev) (hp : ∀ ev ∈ h, noPreset ev = true) (hw : 1 + totalTakes h < SERIAL_MOD) :
    ((run h).calls.map (·.serial)).Nodup ∧ ∀ s, (run h).failedSerial = some s → s ∉ (run h).calls.map (·.serial) := by
  have h0 : SerInv ({} : State) :=
    ⟨Nat.le_refl 1, fun s hs => (by cases hs), List.nodup_nil, fun s hs => (by cases hs)⟩
  have := serInv_foldl h {} h0 hp hw
  exact ⟨this.nodup, fun s hs => (this.failed s hs).2⟩

/-- the hypotheses are met by a history with a failed send in it, and the retried message keeps its serial: 1 fails, is sent
    again as 1, the next call is 2 -/
example : ((run [.sendFail, .retry true true, .send true false]).calls.map (·.serial)) = [1, 2] ∧
    (∀ ev ∈ [Ev.sendFail, .retry true true, .send true false], noPreset ev = true) ∧
    1 + totalTakes [.sendFail, .retry true true, .send true false] < SERIAL_MOD := by decide

end Dbus.Props.C17
