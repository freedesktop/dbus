import Dbus.Proofs.Chunking
/-
  C11 — message framing is independent of how the byte stream is chunked.
-/
namespace Dbus.Props.C11
open Dbus.Model Dbus.Proofs.Loader Dbus.Proofs.Message

/-- **Chunking is irrelevant.** However a byte stream is split into reads, the messages
    produced and whether (hence after how many messages) the stream is declared corrupt are the
    same as for the unsplit stream. Holds for every stream, every partition, every maximum
    message size. -/
theorem chunking_irrelevant (mx : Nat) (chunks : List Bytes) :
    (chunks.foldl (Loader.feed mx) {}).observable = (Loader.feed mx {} chunks.flatten).observable :=
  (foldl_feed_equiv mx chunks {} (stable_empty mx)).observable

/-- **Framing is final** (what the previous theorem rests on): a complete message at the front
    of the buffer is framed the same way whatever arrives behind it, and so is a corruption
    verdict. In particular the verdict does not depend on what follows the message — although
    the reference validates the header against the whole buffer. -/
theorem framing_final (mx fds : Nat) (bs x : Bytes) :
    (∀ m n, loadOne true mx fds bs = .ok m n → loadOne true mx fds (bs ++ x) = .ok m n) ∧
    (loadOne true mx fds bs = .corrupt → loadOne true mx fds (bs ++ x) = .corrupt) :=
  ⟨fun _ _ h => loadOne_ok_append x h, fun h => loadOne_corrupt_append x h⟩

/-- **Nothing after corruption**: once corrupt, further reads produce no message. -/
theorem nothing_after_corruption (mx : Nat) (l : Loader) (h : l.corrupted = true) (chunks : List Bytes) :
    (chunks.foldl (Loader.feed mx) l).observable = l.observable := by
  induction chunks with
  | nil => rfl
  | cons c cs ih => rw [List.foldl_cons, feed_corrupted mx l c h]; exact ih

/-- **Messages before the first invalid one are all delivered**: messages already framed are
    never lost or reordered by later reads (the message list only grows at the end). -/
theorem messages_monotone (mx : Nat) : ∀ (g : Nat) (l : Loader), ∃ more, (drain mx g l).msgs = l.msgs ++ more :=
  fun g l => drain_induction mx (P := fun l' => ∃ more, l'.msgs = l.msgs ++ more)
    (fun _ m _ _ ⟨more, h⟩ => ⟨more ++ [m], by rw [← List.append_assoc, ← h]; rfl⟩) (fun _ h => h) g l
    ⟨[], (List.append_nil _).symm⟩

end Dbus.Props.C11
