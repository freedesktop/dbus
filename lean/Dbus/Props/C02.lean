import Dbus.Model.Build
import Dbus.Props.C12
/-
  C02 — built messages serialise to valid wire format and round-trip exactly.

  A construction program (any sequence of API calls) denotes an abstract message `m`
  (`Model/Build.lean`: `pushTop`, `setHdr`, `applyBuild`); the K-tie shows that the library's
  incremental writer produces `encodeMsg m` byte for byte. The first group of theorems is about
  `encodeMsg m` for *every* well-formed `m`; the second (`build_keeps_valid`,
  `built_message_roundtrips`) proves that construction steps, under the API's preconditions, keep
  the message well-formed - so that the first group applies to whatever was built.
-/
namespace Dbus.Props.C02
open Dbus.Spec Dbus.Model Dbus.Proofs.Message

/-- **Serialises to a valid message, parses back identically.** -/
theorem marshal_roundtrip (mx fds : Nat) (m : Msg) (h : WFMsg mx fds m) :
    loadOne true mx fds (encodeMsg m) = .ok m (encodeMsg m).length :=
  loadOne_encodeMsg_self h

/-- **Re-serialisation is byte-identical**: whatever parses re-encodes to the bytes it came from. -/
theorem remarshal_identical (mx fds : Nat) (bs : Bytes) (m : Msg) (n : Nat)
    (h : loadOne true mx fds bs = .ok m n) : encodeMsg m = bs.take n :=
  (loadOne_sound h).2.1.symm

/-- **The other byte order changes no value**: the image of a message in the other byte order
    is a valid message and parses to the same type, flags, serial, header fields and body
    values — only the byte-order mark differs. -/
theorem byteswap_values (mx fds : Nat) (m : Msg) (e' : Endian) (h : WFMsg mx fds m) :
    loadOne true mx fds (encodeMsg { m with endian := e' }) =
      .ok { m with endian := e' } (encodeMsg { m with endian := e' }).length :=
  marshal_roundtrip mx fds _ (wfMsg_endian e' h)

/-- converting there and back is the identity on the bytes -/
theorem byteswap_involutive (m : Msg) (e' : Endian) :
    encodeMsg { ({ m with endian := e' } : Msg) with endian := m.endian } = encodeMsg m := by
  cases m; rfl

/-- the size of a message does not depend on the byte order -/
theorem byteswap_same_length (m : Msg) (e' : Endian) :
    (encodeMsg { m with endian := e' }).length = (encodeMsg m).length := by
  rw [encodeMsg_length, encodeMsg_length, encodeBody_length_endian, fieldsLen_endian e' m.endian]

/-- **A copy is the same message with serial zero** (so it is not yet a valid wire message:
    the serial is assigned when it is sent). -/
theorem copy_differs_only_in_serial (m : Msg) :
    ({ m with serial := 0 } : Msg).fields = m.fields ∧ ({ m with serial := 0 } : Msg).body = m.body ∧
    ({ m with serial := 0 } : Msg).mtype = m.mtype ∧ ({ m with serial := 0 } : Msg).flags = m.flags :=
  ⟨rfl, rfl, rfl, rfl⟩

end Dbus.Props.C02

namespace Dbus.Props.C02
open Dbus.Spec Dbus.Model Dbus.Proofs.Message Dbus.Props.C12

/-- the SIGNATURE field the library writes for a body of types `tys` -/
def sigField (tys : List Ty) : Field := { code := FIELD_SIGNATURE, ty := .basic .sig, val := .str .sig (printList tys) }

/-- what appending the value `v` to the body of `m` needs: the value is well-formed where it will stand, the lengthened
    signature is a signature (its types are types, it fits in 255 bytes, the depths are within the limits), and the
    message still fits the size limits -/
structure AppendOK (mx : Nat) (m : Msg) (v : Val) : Prop where
  value : WFVal m.endian 0 (encodeBody m).length v (valTy v)
  sig_types : WFList (m.bodyTypes ++ [valTy v])
  sig_ok : SigOK (printList (m.bodyTypes ++ [valTy v]))
  body_fits : (encodeList m.endian 0 (m.body ++ [v])).length ≤ mx ∧ (encodeList m.endian 0 (m.body ++ [v])).length < 2 ^ 32
  header_fits : fieldsLen m.endian (setFieldList m.fields (sigField (m.bodyTypes ++ [valTy v]))) ≤ MAX_ARRAY_LENGTH ∧
    fieldsLen m.endian (setFieldList m.fields (sigField (m.bodyTypes ++ [valTy v]))) ≤ mx ∧
    align8 (16 + fieldsLen m.endian (setFieldList m.fields (sigField (m.bodyTypes ++ [valTy v])))) +
      (encodeList m.endian 0 (m.body ++ [v])).length ≤ mx

theorem sigField_ok (tys : List Ty) : FieldOK (sigField tys) :=
  ⟨by show FIELD_SIGNATURE ≠ 0; decide, fun _ => ⟨.sig, rfl, rfl, rfl⟩⟩

theorem sigField_wf (e : Endian) (tys : List Ty) (h : SigOK (printList tys)) : FieldWF e (sigField tys) :=
  fieldWF_basic (by decide) fun _ _ => Dbus.Proofs.Wire.wfVal_str_iff.2
    ⟨rfl, rfl, Nat.lt_of_le_of_lt (Dbus.Proofs.Wire.sigOK_length h) (by decide), nofun, nofun, fun _ => h⟩

/-- **Appending a value keeps a valid message valid**: the body grows by the value, the signature by its type,
    the SIGNATURE field is rewritten to match - and the result is a well-formed message again. -/
theorem pushTop_keeps_valid (mx fds : Nat) (m : Msg) (v : Val) (h : WFMsg mx fds m) (ha : AppendOK mx m v) :
    WFMsg mx fds (pushTop m v) := by
  obtain ⟨h1, h2, h3, _, h5, _, hold⟩ := (header_wf_iff ..).1 h.header_wf
  have hwf : ∀ g ∈ setFieldList m.fields (sigField (m.bodyTypes ++ [valTy v])), FieldWF m.endian g :=
    forall_mem_setFieldList hold (sigField_wf _ _ ha.sig_ok)
  exact {
    mtype_ne := h.mtype_ne, version_eq := h.version_eq, serial_ne := h.serial_ne
    header_wf := (header_wf_iff ..).2 ⟨h1, h2, h3, ha.body_fits.2, h5, ha.header_fits.1, hwf⟩
    fields_ok := checkFields_set _ _ h.fields_ok (by show FIELD_SIGNATURE ≤ FIELD_LAST; decide) (sigField_ok _)
    mandatory := mandatoryOK_set _ _ _ h.mandatory
    -- the SIGNATURE field just written is the one read back, and it parses to the types it prints
    body_types := by
      show bodyTypesOf (setFieldList m.fields (sigField (m.bodyTypes ++ [valTy v]))) = _
      rw [bodyTypesOf, show FIELD_SIGNATURE = (sigField (m.bodyTypes ++ [valTy v])).code from rfl, set_reads_back]
      exact Dbus.Proofs.parseSeq_complete _ _ ha.sig_types (Nat.le_refl _)
    body_wf := wfFields_append m.endian m.body m.bodyTypes v (valTy v) 0 0 h.body_wf
      (by rw [Nat.zero_add]; exact ha.value)
    falen_le := ha.header_fits.2.1, blen_le := ha.body_fits.1, total_le := ha.header_fits.2.2
    fds_ok := (unixFdsOf_congr (set_frame _ (sigField _) _ (by show FIELD_UNIX_FDS ≠ FIELD_SIGNATURE; decide))).symm ▸ h.fds_ok }

/-- the API's preconditions for one construction step on the message as it then is -/
def BuildOK (mx : Nat) (m : Msg) : BuildOp → Prop
  | .header op => EditOK mx m op
  | .append v => AppendOK mx m v

def BuildsOK (mx : Nat) : Msg → List BuildOp → Prop
  | _, [] => True
  | m, op :: ops => BuildOK mx m op ∧ BuildsOK mx (applyBuild m op) ops

theorem build_step_keeps_valid (mx fds : Nat) (m : Msg) (op : BuildOp) (h : WFMsg mx fds m) (hop : BuildOK mx m op) :
    WFMsg mx fds (applyBuild m op) := by
  cases op with
  | header e => exact edit_keeps_valid mx fds m e h hop
  | append v => exact pushTop_keeps_valid mx fds m v h hop

/-- **Whatever the construction API is used for, in whatever order - header fields set, replaced and cleared, values
    appended - the message stays a valid message** -/
theorem build_keeps_valid (mx fds : Nat) : ∀ (ops : List BuildOp) (m : Msg), WFMsg mx fds m → BuildsOK mx m ops →
    WFMsg mx fds (ops.foldl applyBuild m)
  | [], _, h, _ => h
  | op :: ops, m, h, hops => build_keeps_valid mx fds ops _ (build_step_keeps_valid mx fds m op h hops.1) hops.2

/-- **… and serialises to bytes that parse back to exactly the built message** (whose re-serialisation is then
    byte-identical by `remarshal_identical`) -/
theorem built_message_roundtrips (mx fds : Nat) (ops : List BuildOp) (m : Msg) (h : WFMsg mx fds m) (hops : BuildsOK mx m ops) :
    loadOne true mx fds (encodeMsg (ops.foldl applyBuild m)) =
      .ok (ops.foldl applyBuild m) (encodeMsg (ops.foldl applyBuild m)).length :=
  marshal_roundtrip mx fds _ (build_keeps_valid mx fds ops m h hops)

/-- the serial may be given at any time (the library gives it when the message is sent): it commutes with appending -/
theorem serial_commutes_with_append (m : Msg) (v : Val) (n : Nat) :
    applyEdit (pushTop m v) (.setSerial n) = pushTop (applyEdit m (.setSerial n)) v := rfl

open Dbus.Proofs.Wire Dbus.Props.C12 in
theorem exampleReturn_append_ok : AppendOK 4096 exampleReturn (.fixed .byte 7) := by
  refine { value := ?_, sig_types := ⟨trivial, trivial⟩, sig_ok := ?_, body_fits := by decide, header_fits := by decide }
  · exact wfVal_fixed_iff.2 ⟨rfl, rfl, by decide, nofun⟩
  · refine .inl ⟨by decide, [.basic .byte], rfl, ⟨trivial, trivial⟩, fun t ht => ?_⟩
    cases List.mem_singleton.1 ht
    exact ⟨Nat.zero_le _, Nat.zero_le _, Nat.zero_le _⟩

/-- non-vacuity of `build_keeps_valid`: a method return with a byte appended -/
example : WFMsg 4096 0 ([BuildOp.append (.fixed .byte 7)].foldl applyBuild exampleReturn) :=
  build_keeps_valid 4096 0 _ exampleReturn exampleReturn_wf ⟨exampleReturn_append_ok, trivial⟩

end Dbus.Props.C02
