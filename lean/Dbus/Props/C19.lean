import Dbus.Model.Helper
import Dbus.Proofs.Bus.Timed
/-
  C19 — auto-started services get held messages once, in order, or callers get errors; the
  activation helper executes a program only for a valid bus name whose service file declares
  exactly that name, an Exec line and a User.

  The theorems are about `Dbus.Model.Bus.stepA` (lean/Dbus/Model/Bus/Activation.lean) and
  `Dbus.Model.Helper.run`; both are tied to the code by the C19 check (real daemon with stub
  services under a virtual clock; the real launch helper on generated service directories).
-/
namespace Dbus.Props.C19
open Dbus.Model Dbus.Model.Bus Dbus.Proofs.Bus

/-- no two pending activations for one name -/
def ActsWF (acts : List PendingAct) : Prop := (acts.map (·.name)).Nodup

theorem actsWF_dropAct {acts : List PendingAct} (h : ActsWF acts) (n : Bytes) : ActsWF (dropAct acts n) :=
  List.Nodup.sublist (List.Sublist.map _ List.filter_sublist) h

/-! ### starting the program: at most once per activation -/

/-- what a step may do to the started programs: nothing, or start one for a name that has no
    pending activation yet — and then it has one -/
def StartsFresh (x r : ATx) : Prop :=
  (r.spawned = x.spawned ∧ r.nspawn = x.nspawn) ∨
  ∃ n k, findAct x.acts n = none ∧ r.spawned = x.spawned ++ [(n, k)] ∧ (findAct r.acts n).isSome = true

/-- the effect of (part of) a step on the activation bookkeeping -/
def Eff (x r : ATx) : Prop := StartsFresh x r ∧ (ActsWF x.acts → ActsWF r.acts)

theorem Eff.same {x r : ATx} (ha : r.acts = x.acts) (hs : r.spawned = x.spawned) (hn : r.nspawn = x.nspawn) : Eff x r :=
  ⟨Or.inl ⟨hs, hn⟩, fun h => ha ▸ h⟩

theorem Eff.refl (x : ATx) : Eff x x := Eff.same rfl rfl rfl

/-- replacing the core transaction does not matter to it -/
theorem Eff.withT {x r : ATx} (h : Eff x r) (t t' : Tx) : Eff { x with t := t } { r with t := t' } := h

theorem Eff.ofT {x r : ATx} (t : Tx) (h : Eff { x with t := t } r) : Eff x r := h

theorem eff_sendPending (x : ATx) (n : Bytes) : Eff x (sendPending x n) := by
  unfold sendPending
  split
  · exact ⟨Or.inl ⟨rfl, rfl⟩, fun h => actsWF_dropAct h n⟩
  · exact Eff.refl x

theorem eff_acquireA (x : ATx) (c : ConnId) (n : Bytes) (flags : Nat) : Eff x (acquireA x c n flags).1 :=
  acquireA_cases (P := fun r => Eff x r.1) x c n flags (fun _ => .refl x) fun _ t' _ _ => Eff.ofT t' (eff_sendPending _ n)

theorem eff_activateService (files : List SvcFile) (maxP : Nat) (x : ATx) (c : ConnId) (auto : Bool) (m : Msg) (n : Bytes) :
    Eff x (activateService files maxP x c auto m n).1 := by
  refine activateService_cases (P := fun r => Eff x r.1) files maxP x c auto m n
    (refused := fun _ => .refl x)
    (running := Eff.same rfl rfl rfl)
    (joined := fun _ => ⟨.inl ⟨rfl, rfl⟩, fun hwf => ?_⟩)
    (started := fun f k hnone => ⟨.inr ⟨n, k, hnone, rfl, findAct_append_new x.acts _⟩, fun hwf => ?_⟩)
  · show ((x.acts.map (joinAct { conn := c, msg := m, auto := auto } n)).map (fun pa : PendingAct => pa.name)).Nodup
    rw [names_joinAct]; exact hwf
  · show ((x.acts ++ [_]).map (fun pa : PendingAct => pa.name)).Nodup
    rw [List.map_append]
    exact nodup_concat hwf ((findAct_none_iff _ _).mp hnone)

/-- **`bus_activation_activate_service` starts a program only when nothing is pending for the
    name**, joins the pending activation otherwise; it never leaves two activations for one name. -/
theorem activateService_fresh (files : List SvcFile) (maxP : Nat) (x : ATx) (c : ConnId) (auto : Bool) (m : Msg) (n : Bytes)
    (hwf : ActsWF x.acts) :
    StartsFresh x (activateService files maxP x c auto m n).1 ∧ ActsWF (activateService files maxP x c auto m n).1.acts :=
  let h := eff_activateService files maxP x c auto m n
  ⟨h.1, h.2 hwf⟩

theorem eff_runMethodA (files : List SvcFile) (maxP : Nat) (x : ATx) (c : ConnId) (m : Msg) (i nm : Bytes) :
    Eff x (runMethodA files maxP x c m i nm).1 := by
  unfold runMethodA
  refine iteInduction (motive := fun r : ATx × Option Bytes => Eff x r.1) (fun _ => eff_activateService ..) fun _ =>
    iteInduction (motive := fun r : ATx × Option Bytes => Eff x r.1) (fun _ => ?_) fun _ => .same rfl rfl rfl
  have h := eff_acquireA x c (arg0 m) (arg1Nat m)
  generalize acquireA x c (arg0 m) (arg1Nat m) = r at h ⊢
  rcases r with ⟨x1, e | code⟩ <;> exact h

theorem eff_driverHandleA (tbl : List IfaceRow) (files : List SvcFile) (maxP : Nat) (x : ATx) (c : ConnId) (m : Msg) :
    Eff x (driverHandleA tbl files maxP x c m).1 :=
  driverHandleA_cases (P := fun r => Eff x r.1) tbl files maxP x c m (fun _ => .refl x) fun _ _ _ => eff_runMethodA files maxP x c m _ _

theorem eff_toDriverCoreA (tbl : List IfaceRow) (files : List SvcFile) (maxP : Nat) (x : ATx) (c : ConnId) (m : Msg) :
    Eff x (toDriverCoreA tbl files maxP x c m).1 := by
  unfold toDriverCoreA
  rcases checkPolicy x.t.bus (some c) none none m with ⟨p, _ | e⟩
  · -- the gate and the deliveries to eavesdroppers touch the core transaction only
    have h : Eff x _ := eff_driverHandleA tbl files maxP { x with t := x.t.setPending p } c m
    dsimp only
    generalize driverHandleA tbl files maxP { x with t := x.t.setPending p } c m = r at h ⊢
    rcases r with ⟨x1, _ | e1⟩ <;> exact h
  · exact .same rfl rfl rfl

theorem eff_toDriverA (tbl : List IfaceRow) (files : List SvcFile) (maxP : Nat) (x : ATx) (c : ConnId) (m : Msg) :
    Eff x (toDriverA tbl files maxP x c m).1 := by
  unfold toDriverA
  exact Eff.ofT _ (eff_toDriverCoreA tbl files maxP { x with t := { x.t with mon := [] } } c m)

theorem eff_routeA (files : List SvcFile) (maxP : Nat) (x : ATx) (c : ConnId) (m : Msg) : Eff x (routeA files maxP x c m).1 := by
  unfold routeA
  cases m.dest with
  | none => exact Eff.same rfl rfl rfl
  | some d =>
    dsimp only
    cases x.t.bus.primary? d with
    | some a => exact Eff.same rfl rfl rfl
    | none =>
      exact iteInduction (motive := fun r : ATx × Option Bytes => Eff x r.1) (fun _ => Eff.same rfl rfl rfl)
        fun _ => Eff.ofT _ (eff_activateService files maxP _ c true m d)

theorem eff_finishA {x : ATx} (r : ATx × Option Bytes) (c : ConnId) (m : Msg) (h : Eff x r.1) : Eff x (finishA r c m) := by
  rcases r with ⟨x1, _ | e⟩ <;> exact h

theorem eff_failAct (err : Bytes) (x : ATx) (pa : PendingAct) : Eff x (failAct err x pa) :=
  ⟨Or.inl ⟨rfl, rfl⟩, fun h => actsWF_dropAct h pa.name⟩

theorem Eff.quiet_trans {x y z : ATx} (h1 : Eff x y) (q1 : y.spawned = x.spawned ∧ y.nspawn = x.nspawn)
    (h2 : Eff y z) (q2 : z.spawned = y.spawned ∧ z.nspawn = y.nspawn) : Eff x z :=
  ⟨Or.inl ⟨q2.1.trans q1.1, q2.2.trans q1.2⟩, fun h => h2.2 (h1.2 h)⟩

theorem failAct_fold (err : Bytes) : ∀ (ps : List PendingAct) (x : ATx),
    Eff x (ps.foldl (failAct err) x) ∧ (ps.foldl (failAct err) x).spawned = x.spawned ∧ (ps.foldl (failAct err) x).nspawn = x.nspawn
  | [], x => ⟨Eff.refl x, rfl, rfl⟩
  | p :: ps, x => by
    simp only [List.foldl_cons]
    obtain ⟨h, hs, hn⟩ := failAct_fold err ps (failAct err x p)
    exact ⟨Eff.quiet_trans (eff_failAct err x p) ⟨rfl, rfl⟩ h ⟨hs, hn⟩, hs, hn⟩

theorem eff_childFailed (x : ATx) (n err : Bytes) : Eff x (childFailed x n err) := by
  unfold childFailed
  cases findAct x.acts n with
  | none => exact .refl x
  | some pa =>
    obtain ⟨h, hs, hn⟩ := failAct_fold err (x.acts.filter fun p => p.name != n && p.exec == pa.exec) x
    exact .quiet_trans h ⟨hs, hn⟩ (eff_failAct err _ pa) ⟨rfl, rfl⟩

theorem eff_timedOut (x : ATx) (n : Bytes) : Eff x (timedOut x n) := by
  unfold timedOut
  cases findAct x.acts n with
  | none => exact .refl x
  | some pa => exact eff_failAct ERR_TIMED_OUT x pa

theorem eff_dispatchA (tbl : List IfaceRow) (a : ABus) (c : ConnId) (m0 : Msg) :
    Eff (ofCore a { bus := a.core }) (dispatchA tbl a c m0) := by
  have hd := eff_finishA _ c (stamped a.core c m0)
    (eff_toDriverA tbl a.files a.maxPending (ofCore a { bus := a.core }) c (stamped a.core c m0))
  exact dispatchA_cases (P := fun r => Eff (ofCore a { bus := a.core }) r) tbl a c m0 (Eff.same rfl rfl rfl) hd
    (eff_finishA _ c _ (eff_routeA a.files a.maxPending _ c _))

/-- **A program is started at most once per activation.** Whatever the event, a step of the bus
    starts at most one program, and only for a name that has no pending activation; afterwards that
    name has one, and there are never two pending activations for one name.  So between the start of
    a program for `n` and the end of that activation (name taken, failure, timeout) no second
    program is started for `n`. -/
theorem program_started_at_most_once_per_activation (tbl : List IfaceRow) (a : ABus) (ev : AEv) (hwf : ActsWF a.acts) :
    ((stepA tbl a ev).spawned = [] ∨
      ∃ n k, findAct a.acts n = none ∧ (stepA tbl a ev).spawned = [(n, k)] ∧ (findAct (stepA tbl a ev).acts n).isSome = true) ∧
    ActsWF (stepA tbl a ev).acts := by
  have key : Eff (ofCore a { bus := a.core }) (stepA tbl a ev) :=
    stepA_cases (P := Eff _) tbl a ev
      (msg := eff_dispatchA tbl a)
      (core := fun _ => .same rfl rfl rfl)
      (idle := .refl _)
      (failed := fun n err => eff_childFailed _ n err)
      (timeout := fun n => eff_timedOut _ n)
  refine ⟨?_, key.2 hwf⟩
  rcases key.1 with ⟨hs, _⟩ | ⟨n, k, hnone, hs, hsome⟩
  · exact Or.inl hs
  · exact Or.inr ⟨n, k, hnone, hs, hsome⟩

/-- in every reachable state there is at most one pending activation per name -/
theorem one_pending_activation_per_name (tbl : List IfaceRow) (evs : List AEv) (a : ABus) (hwf : ActsWF a.acts) :
    ActsWF (runA tbl a evs).1.acts :=
  List.foldlRecOn (motive := fun acc : ABus × List ATx => ActsWF acc.1.acts) evs _ hwf fun acc hacc ev _ =>
    (program_started_at_most_once_per_activation tbl acc.1 ev hacc).2

/-! ### the name is taken: held messages, once, in arrival order -/

/-- **Held messages are delivered exactly once, in arrival order, subject to policy.** When the
    name `n` has just been given to `owner`, what `bus_activation_send_pending_auto_activation_messages`
    adds to the output is, entry by entry in the order the entries arrived: for an auto-start entry
    whose sender is still connected, either one copy of the held message to `owner` (followed by
    copies to eavesdroppers, never a second one to `owner`), or — the policy gate refusing it now
    that the recipient is known — nothing to `owner` and at most one error to the sender; nothing
    for other entries.  The pending activation is then gone, so nothing is delivered a second time. -/
theorem held_messages_once_in_arrival_order (x : ATx) (n : Bytes) (pa : PendingAct) (owner : ConnId)
    (hf : findAct x.acts n = some pa) (ho : x.t.bus.primary? n = some owner) :
    ∃ ls : List (List Out), (sendPending x n).t.out = x.t.out ++ ls.flatten ∧ Each₂ (HeldOut owner) pa.entries ls ∧
      findAct (sendPending x n).acts n = none ∧ core (sendPending x n).t.bus = core x.t.bus := by
  unfold sendPending
  simp only [hf, ho]
  obtain ⟨hc, ls, hls, hh⟩ := fold_each _ _ (deliverHeld_spec owner) pa.entries x.t
  exact ⟨ls, hls, hh, findAct_dropAct _ _, hc⟩

/-- nothing pending for the name: taking it delivers nothing extra -/
theorem nothing_pending_nothing_sent (x : ATx) (n : Bytes) (hf : findAct x.acts n = none) : sendPending x n = x := by
  unfold sendPending
  simp [hf]

/-- an auto-start entry of a connected sender that the gate lets through does reach the owner -/
theorem allowed_held_message_is_delivered (owner : ConnId) (t : Tx) (e : ActEntry) (p : List Pending)
    (ha : e.auto = true) (hc : connected t.bus e.conn = true)
    (hpol : checkPolicy t.bus (some e.conn) (some owner) (some owner) e.msg = (p, none))
    (hfd : (decide (e.msg.nFds > 0) && !canFdOf t.bus owner) = false) :
    ∃ l, (deliverHeld owner t e).out = t.out ++ Out.deliver owner e.msg :: l := by
  unfold deliverHeld
  simp only [ha, hc, Bool.and_self, if_true]
  rw [dispatchMatches_granted hpol hfd]
  obtain ⟨l, hl, _⟩ := sendMatches_sublist ((t.setPending p).emit (.deliver owner e.msg)) (some e.conn) (some owner) e.msg
  exact ⟨l, by rw [hl]; simp⟩

/-- **StartServiceByName callers are answered once**: each entry contributes nothing or exactly one
    method return carrying DBUS_START_REPLY_SUCCESS and the caller's serial -/
theorem start_callers_answered_once (pa : PendingAct) : ∀ (t : Tx),
    ∃ ls : List (List Out), (serviceCreated t pa).out = t.out ++ ls.flatten ∧
      Each₂ (fun e l => l = [] ∨ StartedOut e l) pa.entries ls := by
  intro t
  exact (fold_each _ _ replyStarted_spec pa.entries t).2

/-! ### the start fails, the process exits, or the timeout passes -/

/-- **Every waiting sender receives exactly one error** (none only if it has gone or its own
    receive policy refuses the bus's error): entry by entry, in arrival order; the pending
    activation is gone afterwards. -/
theorem failure_each_waiter_one_error (err : Bytes) (x : ATx) (pa : PendingAct) :
    ∃ ls : List (List Out), (failAct err x pa).t.out = x.t.out ++ ls.flatten ∧ Each₂ FailOut pa.entries ls ∧
      findAct (failAct err x pa).acts pa.name = none ∧ core (failAct err x pa).t.bus = core x.t.bus := by
  unfold failAct
  obtain ⟨hc, ls, hls, hh⟩ := fold_each _ _ (failEntry_spec err) pa.entries x.t
  exact ⟨ls, hls, hh, findAct_dropAct _ _, hc⟩

theorem connected_waiter_gets_the_error (err : Bytes) (t : Tx) (e : ActEntry) (p : List Pending)
    (hc : connected t.bus e.conn = true)
    (hgate : checkPolicy t.bus none (some e.conn) (some e.conn) (stampDriver t.bus e.conn (mkErrorNamed e.msg err)) = (p, none)) :
    ∃ x, (failEntry err t e).out = t.out ++ [Out.deliver e.conn x] ∧ IsErrorFor e.msg x := by
  unfold failEntry
  simp only [hc, if_true]
  unfold sendErrorNamed sendFromDriver sendStamped
  rw [capture_bus, hgate]
  refine ⟨_, by simp, by rw [stampDriver_mtype]; rfl, ?_, (stampDriver_busMade t.bus e.conn (known_mkErrorNamed e.msg err)).1⟩
  rw [replySerial_stampDriver, replySerial_mkErrorNamed]

/-- the start timeout: the same fan-out with TimedOut, and the program is killed -/
theorem timeout_fails_every_waiter (x : ATx) (n : Bytes) (pa : PendingAct) (hf : findAct x.acts n = some pa) :
    ∃ ls : List (List Out), (timedOut x n).t.out = x.t.out ++ ls.flatten ∧ Each₂ FailOut pa.entries ls ∧
      (timedOut x n).killed = x.killed ++ [(n, pa.child)] ∧ findAct (timedOut x n).acts pa.name = none := by
  unfold timedOut
  simp only [hf]
  obtain ⟨ls, hls, hh, hnone, _⟩ := failure_each_waiter_one_error ERR_TIMED_OUT x pa
  exact ⟨ls, hls, hh, trivial, hnone⟩

/-- an exit status of 0 is ignored (the program may have daemonized): nothing is sent, nothing changes -/
theorem clean_exit_is_ignored (tbl : List IfaceRow) (a : ABus) (k : Nat) :
    (stepA tbl a (.childExited k none)).t.out = [] ∧ (stepA tbl a (.childExited k none)).acts = a.acts ∧
    (stepA tbl a (.childExited k none)).t.bus = a.core := by
  simp only [stepA]
  exact ⟨rfl, rfl, rfl⟩

/-- a program nobody waits for any more (its activation succeeded, failed or timed out) can die
    without anybody hearing of it -/
theorem stale_program_exit_is_silent (tbl : List IfaceRow) (a : ABus) (k : Nat) (err : Bytes)
    (h : a.acts.find? (·.child == some k) = none) :
    (stepA tbl a (.childExited k (some err))).t.out = [] ∧ (stepA tbl a (.childExited k (some err))).acts = a.acts := by
  simp only [stepA, h]
  exact ⟨rfl, rfl⟩

open Dbus.Model.Helper in
/-- **The helper executes a program only for a syntactically valid bus name whose service file — the
    first loadable `<name>.service` in directory order — declares exactly that name together with an
    Exec line and a User; and then what it executes is the Exec line split into words.** -/
theorem helper_executes_iff (name : Bytes) (dirs : List (Option Bytes)) (argv : List Bytes) :
    Helper.run name dirs = .exec argv ↔
      validateBusName name = true ∧
      ∃ f, firstLoadable dirs = some f ∧ getString f SERVICE_SECTION KEY_NAME = some name ∧
        (getString f SERVICE_SECTION KEY_USER).isSome = true ∧
        ∃ e, getString f SERVICE_SECTION KEY_EXEC = some e ∧ parseArgv e = .ok argv := by
  unfold Helper.run
  -- the tests one after the other: where one fails, both sides are false
  cases hv : validateBusName name with
  | false => simp
  | true =>
    cases hf : firstLoadable dirs with
    | none => simp
    | some f =>
      cases hn : getString f SERVICE_SECTION KEY_NAME with
      | none => simp [hn]
      | some n =>
        by_cases hne : n = name
        · subst hne
          cases he : getString f SERVICE_SECTION KEY_EXEC with
          | none => simp [hn, he]
          | some e =>
            cases hu : getString f SERVICE_SECTION KEY_USER with
            | none => simp [hn, he, hu]
            | some u => cases hp : parseArgv e <;> simp [hn, he, hu, hp]
        · simp [hn, hne]

open Dbus.Model.Helper in
/-- an invalid bus name is refused before any file is looked at -/
theorem helper_refuses_invalid_name (name : Bytes) (dirs : List (Option Bytes)) (h : validateBusName name = false) :
    Helper.run name dirs = .exit EXIT_NAME_INVALID := by
  unfold Helper.run; simp [h]

open Dbus.Model.Helper in
/-- a service file that declares another name — however similar — is never executed -/
theorem helper_refuses_other_name (name other : Bytes) (dirs : List (Option Bytes)) (f : DFile)
    (hv : validateBusName name = true) (hf : firstLoadable dirs = some f)
    (hn : getString f SERVICE_SECTION KEY_NAME = some other) (hne : other ≠ name) :
    Helper.run name dirs = .exit EXIT_FILE_INVALID := by
  unfold Helper.run
  have : (other != name) = true := by simpa using hne
  simp [hv, hf, hn, this]

/-- a pending activation with two held calls and a StartServiceByName caller, taken by connection 7 -/
example : ∃ (x : ATx) (pa : PendingAct), findAct x.acts [0x61] = some pa ∧ x.t.bus.primary? [0x61] = some 7 ∧ pa.entries.length = 3 :=
  ⟨{ t := { bus := { services := [{ name := [0x61], owners := [{ conn := 7, allowRepl := false, noQueue := false }] }] } },
     acts := [{ name := [0x61], exec := [], entries := [{ conn := 1, msg := default, auto := true }, { conn := 2, msg := default, auto := false },
                                                          { conn := 1, msg := default, auto := true }] }] },
   _, rfl, rfl, rfl⟩

/-! ### the start timeout belongs to the activation, not to its waiters -/

/-- has the timer of the pending activation `n` run out at time `now`? -/
def actDue (t : TBus) (now : Nat) (n : Bytes) : Bool := t.actBorn.any fun e => e.1 == n && decide (e.2 + t.startTimeout ≤ now)

theorem actDue_iff (t : TBus) (now : Nat) (n : Bytes) : actDue t now n = true ↔ ∃ b, (n, b) ∈ t.actBorn ∧ b + t.startTimeout ≤ now :=
  any_due_iff ..

/-- **Joining an activation does not move its deadline.** Whatever happens — more senders joining the
    pending activation, other traffic — as long as the activation is still pending afterwards, the
    time its timer was armed at is the one recorded when the program was started. -/
theorem joining_keeps_the_start_deadline (tbl : List IfaceRow) (t : TBus) (e : AEv) (pa : PendingAct) (b : Nat)
    (hb : t.actBorn.lookup pa.name = some b) (hpa : pa ∈ (stepT tbl t (.ev e)).1.a.acts) :
    (pa.name, b) ∈ (stepT tbl t (.ev e)).1.actBorn :=
  stampActs_keeps t.now t.actBorn _ pa b hb hpa

/-- **When time passes, exactly the activations whose timer has run out end** (each waiter getting its
    TimedOut error: `timeout_fails_every_waiter`); every other pending activation stays as it is, with
    all its waiters. -/
theorem start_deadline_is_fixed (tbl : List IfaceRow) (t : TBus) (dt : Nat) :
    (stepT tbl t (.advance dt)).1.a.acts = t.a.acts.filter (fun pa => !actDue t (t.now + dt) pa.name) := by
  simp only [stepT]
  rw [fireActs_acts]
  show t.a.acts.filter _ = _
  apply List.filter_congr
  intro pa _
  congr 1
  exact Bool.eq_iff_iff.mpr (List.contains_iff_mem.trans ((mem_dueActs ..).trans (actDue_iff ..).symm))

/-- the transactions of an `advance`, after the expiry of the pending replies, are the time-outs of the
    due activations: one each -/
theorem one_timeout_per_due_activation (tbl : List IfaceRow) (t : TBus) (dt : Nat) :
    (stepT tbl t (.advance dt)).2.length = 1 + (dueActs { t with now := t.now + dt } (t.now + dt)).length := by
  simp only [stepT]
  obtain ⟨rest, h, hl⟩ := fireActs_txs tbl (dueActs { t with now := t.now + dt } (t.now + dt))
    (({ t with now := t.now + dt } : TBus).next (stepA tbl t.a (.core (.expire (dueSlots { t with now := t.now + dt } (t.now + dt))))))
    [stepA tbl t.a (.core (.expire (dueSlots { t with now := t.now + dt } (t.now + dt))))]
  rw [h]; simp [hl]; omega

/-- the hypotheses are met: an activation started at time 0 with a 1000 s timeout, joined at 700 s, is still
    pending at 900 s and over at 1150 s -/
example : let t : TBus := { a := { acts := [{ name := [0x61], exec := [], entries := [{ conn := 1, msg := default, auto := true }] }] },
                            startTimeout := 1000000, actBorn := [([0x61], 0)], now := 700000 }
    ((stepT [] t (.advance 200000)).1.a.acts.length = 1) ∧ ((stepT [] t (.advance 450000)).1.a.acts.length = 0) := by
  decide

end Dbus.Props.C19
