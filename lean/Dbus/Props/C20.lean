import Dbus.Proofs.ObjectTreeLive
/-
  C20 — object-path handlers are chosen by exact path, then nearest fallback.
-/
namespace Dbus.Props.C20
open Dbus.Spec.Tree Dbus.Model.Tree Dbus.Proofs.Tree

inductive Op
  | reg (p : Path) (r : Reg)
  | unreg (p : Path)

/-- one registration-API call on the trie; the Bool is "succeeded" -/
def stepTree (n : Node) : Op → Node × Bool
  | .reg p r => match registerN n p r with
    | some n' => (n', true)
    | none => (n, false)
  | .unreg p => match unregisterN n p with
    | some n' => (n', true)
    | none => (n, false)

/-- the same call on the registration map of the specification -/
def stepMap (f : RegMap) : Op → RegMap × Bool
  | .reg p r => match f.register p r with
    | some f' => (f', true)
    | none => (f, false)
  | .unreg p => (f.unregister p, (f p).isSome)

def runTree (ops : List Op) : Node := ops.foldl (fun n op => (stepTree n op).1) Node.empty
def runMap (ops : List Op) : RegMap := ops.foldl (fun f op => (stepMap f op).1) RegMap.empty

/-- One step of the trie refines one step of the registration map: well-formedness is kept,
    the abstraction commutes, the reported result is the same. In particular registering an
    occupied path fails and changes nothing, and unregistering removes exactly that path. -/
theorem step_refines (n : Node) (f : RegMap) (op : Op) (hwf : WF n) (habs : ∀ q, lookup n q = f q) :
    WF (stepTree n op).1 ∧ (∀ q, lookup (stepTree n op).1 q = (stepMap f op).1 q) ∧
      (stepTree n op).2 = (stepMap f op).2 := by
  cases op with
  | reg p r =>
    simp only [stepTree, stepMap, RegMap.register, ← habs p]
    cases hr : registerN n p r with
    | none =>
      obtain ⟨v, hv⟩ := Option.isSome_iff_exists.1 ((registerN_none n p r hwf).1 hr)
      simp only [hv]
      exact ⟨hwf, habs, trivial⟩
    | some n' =>
      have hfree : lookup n p = none := by
        rw [← Option.not_isSome_iff_eq_none, ← registerN_none n p r hwf, hr]
        nofun
      simp only [hfree]
      exact ⟨(register_wf r).1 n p n' hr hwf, fun q => by rw [(register_lookup r).1 n p n' hr hwf q, habs q], trivial⟩
  | unreg p =>
    simp only [stepTree, stepMap, RegMap.unregister, ← habs p]
    cases hr : unregisterN n p with
    | none =>
      have hfree := (unregisterN_none n p).1 hr
      refine ⟨hwf, fun q => ?_, by rw [hfree]; rfl⟩
      by_cases hq : q = p
      · rw [if_pos hq, hq, hfree]
      · rw [if_neg hq, habs q]
    | some n' =>
      have hocc : (lookup n p).isSome = true := by
        rw [Option.isSome_iff_ne_none, Ne, ← unregisterN_none n p, hr]
        nofun
      exact ⟨unregister_wf.1 n p n' hr hwf, fun q => by rw [unregister_lookup.1 n p n' hr hwf q, habs q], hocc.symm⟩

/-- **Refinement over every history**: after any sequence of register / register-fallback /
    unregister calls the trie is well-formed and denotes exactly the registration map the
    specification reaches. -/
theorem tree_refines_set (ops : List Op) :
    WF (runTree ops) ∧ ∀ q, lookup (runTree ops) q = runMap ops q :=
  List.foldl_rel (r := fun n f => WF n ∧ ∀ q, lookup n q = f q) ⟨empty_wf, empty_lookup⟩ fun op _ n f h =>
    let ⟨h1, h2, _⟩ := step_refines n f op h.1 h.2
    ⟨h1, h2⟩

/-- **Dispatch order** in every reachable state: a call to `p` is offered first to the handler
    registered at exactly `p`, then to the fallback handlers of successively shorter ancestor
    paths — as computed from the specification's registration map. -/
theorem dispatch_order_eq_spec (ops : List Op) (p : Path) :
    handlers (runTree ops) p = RegMap.handlers (runMap ops) p := by
  rw [handlers_eq_spec, funext (tree_refines_set ops).2]

/-- the handlers invoked stop at the first that accepts -/
theorem invoke_stops_at_first_taker (takers hs : List Nat) :
    ∀ id, (invokeUntil takers hs).2 = some id →
      (invokeUntil takers hs).1.getLast? = some id ∧ takers.contains id = true ∧
      ∀ x ∈ (invokeUntil takers hs).1.dropLast, takers.contains x = false := by
  intro id h
  rw [invokeUntil_eq] at h ⊢
  cases hf : hs.find? takers.contains with
  | none => rw [hf] at h; cases h
  | some id' =>
    rw [hf] at h
    cases h
    refine ⟨by simp, List.find?_some hf, fun x hx => ?_⟩
    rw [List.dropLast_concat] at hx
    simpa using List.all_eq_true.1 List.all_takeWhile x hx

/-- **Error choice** (structural form): `found_object` holds exactly when the node at `p`
    exists or a node on a proper prefix of `p` carries a set `invoke_as_fallback` flag.
    With known finding K3 the flag may be set without a fallback registration (initially on the
    root, and after unregistering a fallback); the theorem names that mechanism explicitly. -/
theorem error_choice_structural (n : Node) (p : Path) (takers : List Nat)
    (hno : (invokeUntil takers (handlers n p)).2 = none) :
    (dispatch n p takers).2 = .unknownMethod ↔
      ((lookupNode n p).isSome = true ∨
        ∃ q ∈ prefixesUp p, ∃ c, lookupNode n q = some c ∧ c.flag = true) := by
  unfold dispatch
  cases hi : invokeUntil takers (handlers n p) with
  | mk inv r =>
    rw [hi] at hno
    simp only at hno
    subst hno
    simp only
    rw [← found_iff]
    cases found n p <;> simp

/-- a fallback *registration* above `p` always yields UnknownMethod, never UnknownObject -/
theorem below_fallback_found (n : Node) (p q : Path) (id : Nat) (hq : q ∈ prefixesUp p)
    (hreg : lookup n q = some (true, id)) : found n p = true := by
  obtain ⟨c, hl, hr⟩ := lookup_eq_some.1 hreg
  exact (found_iff p n).2 (.inr ⟨q, hq, c, hl, flag_of_reg hr⟩)

/-- a registered path is always found -/
theorem registered_found (n : Node) (p : Path) (r : Reg) (hreg : lookup n p = some r) :
    found n p = true := by
  obtain ⟨c, hl, _⟩ := lookup_eq_some.1 hreg
  exact (found_iff p n).2 (.inl (hl ▸ rfl))

/-- non-vacuity: a concrete history with shared prefixes, a fallback, an occupied path -/
example :
    let a : Bytes := [0x61]; let b : Bytes := [0x62]
    let ops := [Op.reg [a] (true, 1), Op.reg [a, b] (false, 2), Op.reg [a] (false, 3), Op.unreg [a, b]]
    handlers (runTree ops) [a, b, a] = [1] ∧ (stepTree (runTree ops) (Op.reg [a] (false, 3))).2 = false := by
  decide

theorem stepTree_live (n : Node) (op : Op) (h : Live n) : Live (stepTree n op).1 := by
  cases op with
  | reg p r =>
    simp only [stepTree]
    cases hr : registerN n p r with
    | none => exact h
    | some n' => exact registerN_live n p r n' h hr
  | unreg p =>
    simp only [stepTree]
    cases hr : unregisterN n p with
    | none => exact h
    | some n' => exact unregisterN_live n p n' h hr

/-- no reachable trie has a dead branch: unregistration prunes what registration created -/
theorem no_dead_branch (ops : List Op) : Live (runTree ops) :=
  List.foldlRecOn ops _ (by simp [Node.empty, Live, LiveL]) fun n h op _ => stepTree_live n op h

/-- **The child listing reflects exactly the registered tree**, in every reachable state: `e` is listed
    below `p` iff some registration of the specification's map lies at `p/e` or below it. -/
theorem children_eq_spec (ops : List Op) (p : Path) (e : Bytes) :
    e ∈ listChildren (runTree ops) p ↔ ∃ q r, runMap ops (p ++ e :: q) = some r := by
  obtain ⟨hwf, habs⟩ := tree_refines_set ops
  rw [children_iff p _ hwf (no_dead_branch ops) e]
  simp only [habs]

end Dbus.Props.C20
