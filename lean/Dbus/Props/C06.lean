import Dbus.Props.C05
import Dbus.Proofs.PolicyOpt
/-
  C06 — security policy decisions equal the documented rule semantics.

  `Documented` below is written from doc/dbus-daemon.1.xml.in ("purely textual/by-value matches
  against the given field", last matching rule decides, nothing allowed by default, the eavesdrop
  and requested_reply modifiers, send_broadcast, destination = any queued owner, prefix by
  dot-separated words, the fd-count range, and the documented warning about interfaces).
-/
namespace Dbus.Props.C06
open Dbus.Model Dbus.Model.Bus Dbus.Proofs.Bus

namespace Documented

/-- by-value match of an attribute against a header field: no such field, no match -/
def byValue (ruleV msgV : Option Bytes) : Bool :=
  match ruleV with
  | none => true
  | some r => msgV == some r

/-- the interface attribute: by value, except that — as the manual warns — a deny rule naming an
    interface also hits messages that carry no interface at all -/
def ifaceMatches (allow : Bool) (ruleI msgI : Option Bytes) : Bool :=
  match ruleI with
  | none => true
  | some r => msgI == some r || (!allow && msgI.isNone)

def typeMatches (r : MsgRule) (v : MsgView) : Bool := r.mtype == 0 || v.mtype == r.mtype

/-- requested_reply: only looked at for replies; allow+true = only requested replies, deny+false =
    only unrequested ones -/
def replyMatches (allow : Bool) (r : MsgRule) (v : MsgView) (requested : Bool) : Bool :=
  !v.isReply ||
  (if allow then (!r.requestedReply || requested || r.eavesdrop) else (r.requestedReply || !requested))

def isBroadcast (v : MsgView) : Bool := v.dest.isNone && v.mtype == 4

def broadcastMatches (r : MsgRule) (v : MsgView) : Bool :=
  match r.broadcast with
  | .any => true
  | .yes => isBroadcast v
  | .no => !isBroadcast v

/-- destination: the recipient is a queued owner of the named name (or of a name under the prefix);
    towards the bus driver itself the destination string is compared -/
def destMatches (r : MsgRule) (v : MsgView) (recv : PeerInfo) : Bool :=
  match r.peer with
  | none => true
  | some d =>
    if r.peerPrefix then
      (if recv.present then recv.queuedFor.any (fun n => startsWithWords n d)
       else match v.dest with | some md => startsWithWords md d | none => false)
    else
      (if recv.present then recv.queuedFor.contains d else v.dest == some d)

def fdsMatch (r : MsgRule) (mx : Nat) (n : Nat) : Bool :=
  !(decide (r.minFds > 0) || decide (r.maxFds < mx)) || (decide (r.minFds ≤ n) && decide (n ≤ r.maxFds))

def sendMatches (mx : Nat) (allow : Bool) (r : MsgRule) (v : MsgView) (requested : Bool) (recv : PeerInfo) : Bool :=
  typeMatches r v && replyMatches allow r v requested && byValue r.path v.path && ifaceMatches allow r.iface v.iface &&
  byValue r.member v.member && byValue r.error v.error && broadcastMatches r v && destMatches r v recv &&
  fdsMatch r mx v.nFds

def senderMatches (r : MsgRule) (v : MsgView) (sender : PeerInfo) : Bool :=
  match r.peer with
  | none => true
  | some o => if sender.present then sender.queuedFor.contains o else v.sender == some o

/-- eavesdrop: allow rules cover eavesdropping only when they say so; deny rules that say so apply
    only to eavesdropping -/
def eavesMatches (allow : Bool) (r : MsgRule) (eavesdropping : Bool) : Bool :=
  if allow then (!eavesdropping || r.eavesdrop) else (eavesdropping || !r.eavesdrop)

def receiveMatches (mx : Nat) (allow : Bool) (r : MsgRule) (v : MsgView) (requested eavesdropping : Bool)
    (sender : PeerInfo) : Bool :=
  typeMatches r v && eavesMatches allow r eavesdropping && replyMatches allow r v requested && byValue r.path v.path &&
  ifaceMatches allow r.iface v.iface && byValue r.member v.member && byValue r.error v.error &&
  senderMatches r v sender && fdsMatch r mx v.nFds

/-- the last matching rule decides; with no matching rule the action is denied -/
def decide' (rules : List PRule) (matches' : PRule → Bool) : Bool :=
  match (rules.reverse.find? matches') with
  | some r => r.allow
  | none => false

def maySend (mx : Nat) (rules : List PRule) (v : MsgView) (requested : Bool) (recv : PeerInfo) : Bool :=
  decide' rules fun r => match r.kind with | .send mr => sendMatches mx r.allow mr v requested recv | _ => false

def mayReceive (mx : Nat) (rules : List PRule) (v : MsgView) (requested eavesdropping : Bool) (sender : PeerInfo) : Bool :=
  decide' rules fun r => match r.kind with | .receive mr => receiveMatches mx r.allow mr v requested eavesdropping sender | _ => false

def ownMatches (name : Option Bytes) (pfx : Bool) (requested : Bytes) : Bool :=
  match name with
  | none => true
  | some n => if pfx then startsWithWords requested n else requested == n

def mayOwn (rules : List PRule) (requested : Bytes) : Bool :=
  decide' rules fun r => match r.kind with | .own n p => ownMatches n p requested | _ => false

end Documented

theorem lastVerdict_eq_decide (rules : List PRule) (f : PRule → Bool) : lastVerdict rules f = Documented.decide' rules f := by
  -- the last rule of a list is the first of its reverse
  have key : ∀ l : List PRule, lastVerdict l.reverse f = match l.find? f with | some r => r.allow | none => false := by
    intro l
    induction l with
    | nil => rfl
    | cons x xs ih =>
      rw [List.reverse_cons, Dbus.Proofs.PolicyOpt.lastVerdict_append, List.find?_cons]
      cases hx : f x
      · simpa [hx] using ih
      · simp [hx, lastVerdict]
  have := key rules.reverse
  rw [List.reverse_reverse] at this
  exact this

theorem lastVerdict_append (l1 l2 : List PRule) (f : PRule → Bool) :
    lastVerdict (l1 ++ l2) f = if l2.any f then lastVerdict l2 f else lastVerdict l1 f :=
  Dbus.Proofs.PolicyOpt.lastVerdict_append l1 l2 f

/-- the message carries every header field that the rule's path / member / error attributes name -/
def FieldsPresent (r : MsgRule) (v : MsgView) : Prop :=
  (r.path.isSome → v.path.isSome) ∧ (r.member.isSome → v.member.isSome) ∧ (r.error.isSome → v.error.isSome)

/-- the code asks whether the two differ, the documentation whether the message's field is the rule's -/
theorem not_bne_bytes (r m : Bytes) : (!(r != m)) = (some m == some r) := by
  rw [bne, Bool.not_not, Option.some_beq_some, Bool.beq_comm]

theorem optMismatch_byValue (rv mv : Option Bytes) (h : rv.isSome → mv.isSome) :
    (!optMismatch rv mv) = Documented.byValue rv mv := by
  cases rv with
  | none => rfl
  | some r =>
    cases mv with
    | none => exact absurd (h rfl) (by simp)
    | some m => exact not_bne_bytes r m

theorem ifaceSkips_doc (allow : Bool) (ri mi : Option Bytes) : (!ifaceSkips allow ri mi) = Documented.ifaceMatches allow ri mi := by
  cases ri with
  | none => rfl
  | some r =>
    cases mi with
    | none => simp [ifaceSkips, Documented.ifaceMatches]
    | some m => simpa [ifaceSkips, Documented.ifaceMatches] using not_bne_bytes r m

theorem replySkips_doc (allow : Bool) (r : MsgRule) (v : MsgView) (req : Bool) :
    (!replySkips allow r v.isReply req) = Documented.replyMatches allow r v req := by
  have : ∀ i a q rr e : Bool,
      (!(i && ((!q && a && rr && !e) || (q && !a && !rr)))) = (!i || if a then (!rr || q || e) else (rr || !q)) := by decide
  exact this v.isReply allow req r.requestedReply r.eavesdrop

theorem type_doc (r : MsgRule) (v : MsgView) :
    (!(decide (r.mtype ≠ 0) && v.mtype != r.mtype)) = Documented.typeMatches r v := by
  rw [Documented.typeMatches, Bool.not_and, bne, Bool.not_not, decide_not, Bool.not_not]
  rfl

theorem broadcast_doc (r : MsgRule) (v : MsgView) : (!broadcastSkips r v) = Documented.broadcastMatches r v := by
  unfold broadcastSkips Documented.broadcastMatches Documented.isBroadcast
  cases r.broadcast <;> simp

theorem dest_doc (r : MsgRule) (v : MsgView) (recv : PeerInfo) : (!peerSkipsSend r v recv) = Documented.destMatches r v recv := by
  unfold peerSkipsSend Documented.destMatches
  cases r.peer with
  | none => rfl
  | some d =>
    dsimp only
    cases r.peerPrefix <;> cases recv.present <;> simp [bne]
    · cases v.dest <;> simp

theorem fds_doc (r : MsgRule) (mx n : Nat) : (!fdsSkips r mx n) = Documented.fdsMatch r mx n := by
  have h3 : (!decide (n < r.minFds)) = decide (r.minFds ≤ n) := by simp [← decide_not]
  have h4 : (!decide (n > r.maxFds)) = decide (n ≤ r.maxFds) := by simp [← decide_not]
  rw [fdsSkips, Documented.fdsMatch, Bool.not_and, Bool.not_or (decide (n < _)), h3, h4]

/-- **Send rules.** For every rule, message, reply state and recipient: the rule applies in the
    code exactly when the documentation says it matches — provided the message carries the header
    fields the rule's path / member / error attributes name (see F16 for the other case). -/
theorem send_rule_matches_as_documented (mx : Nat) (allow : Bool) (r : MsgRule) (v : MsgView) (req : Bool) (recv : PeerInfo)
    (hf : FieldsPresent r v) :
    sendApplies mx allow r v req recv = Documented.sendMatches mx allow r v req recv := by
  unfold sendApplies Documented.sendMatches
  rw [type_doc, replySkips_doc, optMismatch_byValue _ _ hf.1, ifaceSkips_doc, optMismatch_byValue _ _ hf.2.1,
    optMismatch_byValue _ _ hf.2.2, broadcast_doc, dest_doc, fds_doc]

theorem sender_doc (r : MsgRule) (v : MsgView) (sender : PeerInfo) :
    (!peerSkipsReceive r v sender) = Documented.senderMatches r v sender := by
  unfold peerSkipsReceive Documented.senderMatches
  cases r.peer with
  | none => rfl
  | some o => dsimp only; cases sender.present <;> simp [bne]

theorem eaves_doc (allow : Bool) (r : MsgRule) (e : Bool) : (!eavesSkips allow r e) = Documented.eavesMatches allow r e := by
  unfold eavesSkips Documented.eavesMatches
  cases allow <;> cases e <;> cases r.eavesdrop <;> rfl

/-- **Receive rules**, likewise. -/
theorem receive_rule_matches_as_documented (mx : Nat) (allow : Bool) (r : MsgRule) (v : MsgView) (req eav : Bool)
    (sender : PeerInfo) (hf : FieldsPresent r v) :
    receiveApplies mx allow r v req eav sender = Documented.receiveMatches mx allow r v req eav sender := by
  unfold receiveApplies Documented.receiveMatches
  rw [type_doc, eaves_doc, replySkips_doc, optMismatch_byValue _ _ hf.1, ifaceSkips_doc, optMismatch_byValue _ _ hf.2.1,
    optMismatch_byValue _ _ hf.2.2, sender_doc, fds_doc]

/-- **Own rules**: equal without condition. -/
theorem own_rule_matches_as_documented (name : Option Bytes) (pfx : Bool) (req : Bytes) :
    ownApplies name pfx req = Documented.ownMatches name pfx req := by
  unfold ownApplies Documented.ownMatches
  cases name <;> cases pfx <;> simp

/-- every send/receive rule of the list finds its fields in the message -/
def AllFieldsPresent (rules : List PRule) (v : MsgView) : Prop :=
  ∀ r ∈ rules, match r.kind with
    | .send mr => FieldsPresent mr v
    | .receive mr => FieldsPresent mr v
    | _ => True

theorem decide_congr (rules : List PRule) (f g : PRule → Bool) (h : ∀ r ∈ rules, f r = g r) :
    Documented.decide' rules f = Documented.decide' rules g := by
  unfold Documented.decide'
  rw [← List.head?_filter, ← List.head?_filter, List.filter_congr fun r hr => h r (List.mem_reverse.mp hr)]

/-- **Decisions.** Whether a message may be sent / received and whether a name may be owned is what
    the documented evaluation says: rules in order, the last matching one decides, nothing is
    allowed by default. -/
theorem send_decision_as_documented (mx : Nat) (rules : List PRule) (v : MsgView) (req : Bool) (recv : PeerInfo)
    (hf : AllFieldsPresent rules v) : canSend mx rules v req recv = Documented.maySend mx rules v req recv := by
  refine (lastVerdict_eq_decide _ _).trans (decide_congr _ _ _ fun ⟨a, k⟩ hr => ?_)
  cases k with
  | send mr => exact send_rule_matches_as_documented mx a mr v req recv (hf _ hr)
  | _ => rfl

theorem receive_decision_as_documented (mx : Nat) (rules : List PRule) (v : MsgView) (req eav : Bool) (sender : PeerInfo)
    (hf : AllFieldsPresent rules v) : canReceive mx rules v req eav sender = Documented.mayReceive mx rules v req eav sender := by
  refine (lastVerdict_eq_decide _ _).trans (decide_congr _ _ _ fun ⟨a, k⟩ hr => ?_)
  cases k with
  | receive mr => exact receive_rule_matches_as_documented mx a mr v req eav sender (hf _ hr)
  | _ => rfl

theorem own_decision_as_documented (rules : List PRule) (req : Bytes) : canOwn rules req = Documented.mayOwn rules req := by
  refine (lastVerdict_eq_decide _ _).trans (decide_congr _ _ _ fun ⟨a, k⟩ _ => ?_)
  cases k with
  | own n p => exact own_rule_matches_as_documented n p req
  | _ => rfl

/-- F16, the recorded departure: a rule's path (likewise member, error) attribute also matches a
    message that has no such header field — e.g. `<deny send_path="/secret"/>` denies every method
    return, since replies carry no path. -/
theorem f16_witness :
    let r : MsgRule := { path := some [0x2f, 0x73] }
    let v : MsgView := { mtype := 2, path := none, iface := none, member := none, error := none, dest := some [0x3a, 0x31],
                         sender := none, isReply := true, nFds := 0 }
    sendApplies 16 false r v false { present := false, queuedFor := [] } = true ∧
    Documented.sendMatches 16 false r v false { present := false, queuedFor := [] } = false := by
  decide

/-- the rules a connection is judged by: default, then its groups', then its user's, then the
    console ones, then mandatory -/
theorem contexts_in_order (p : Policy) (uid : Nat) (gids : List Nat) (c : Bool) :
    p.clientRules uid gids c = p.default ++ gids.flatMap (lookupAll p.byGid) ++ lookupAll p.byUid uid ++
      (if c then p.consoleTrue else p.consoleFalse) ++ p.mandatory := rfl

/-- a later context overrides an earlier one whenever one of its rules matches: in particular a
    mandatory rule that matches decides, whatever the per-user, per-group and default rules say -/
theorem later_context_wins (earlier later : List PRule) (f : PRule → Bool) (h : later.any f = true) :
    lastVerdict (earlier ++ later) f = lastVerdict later f := by
  rw [lastVerdict_append, h]; rfl

/-- and is transparent when none of its rules matches -/
theorem unmatched_context_transparent (earlier later : List PRule) (f : PRule → Bool) (h : later.any f = false) :
    lastVerdict (earlier ++ later) f = lastVerdict earlier f := by
  rw [lastVerdict_append, h]; rfl

/-- nothing is allowed by default -/
theorem nothing_allowed_by_default (f : PRule → Bool) : lastVerdict [] f = false := rfl

/-- the gate refuses with AccessDenied and nothing else — except that a recipient that is not reading
    (its outgoing queue is over the limit) is refused with LimitsExceeded, after the policy has allowed -/
theorem gate_denies_with_access_denied (b : Bus) (s a p : Option ConnId) (m : Msg) (req : Bool) (e : Err)
    (h : policyVerdict b s a p m req = some e) : e = .accessDenied ∨ (e = .limitsExceeded ∧ queueFull b p = true) := by
  -- the claim as a property `Q` of the verdict: it holds at every leaf of the chain of tests
  let Q (v : Option Err) : Prop := ∀ e, v = some e → e = .accessDenied ∨ (e = .limitsExceeded ∧ queueFull b p = true)
  have ad : Q (some .accessDenied) := fun e h => Or.inl (Option.some.inj h).symm
  have no : Q none := fun e h => nomatch h
  have test {c : Prop} [Decidable c] {x y : Option Err} (hx : c → Q x) (hy : ¬c → Q y) : Q (if c then x else y) :=
    iteInduction hx hy
  exact test (fun _ => test (fun _ => no) fun _ => ad) (fun _ => test (fun _ => ad) fun _ => test (fun _ => ad) fun _ =>
    test (fun hq e h => Or.inr ⟨(Option.some.inj h).symm, hq⟩) fun _ => no) e h

/-- **Send rules for the sender, receive rules for each recipient.** Between two registered
    connections the gate lets a message through exactly when the sender's rules allow sending it
    and the proposed recipient's rules allow receiving it. -/
theorem gate_checks_sender_and_recipient (b : Bus) (s r : ConnId) (a : Option ConnId) (m : Msg) (req : Bool)
    (srules rrules : List PRule) (hs : rulesOf b (some s) = some srules) (hr : rulesOf b (some r) = some rrules)
    (hact : b.isActive s = true) (hq : queueFull b (some r) = false) :
    policyVerdict b (some s) a (some r) m req = none ↔
      (canSend b.limits.maxFdsDefault srules (msgView m) req (b.peerInfo (some r)) = true ∧
       canReceive b.limits.maxFdsDefault rrules (msgView m) req (decide (a ≠ some r) && (msgView m).dest.isSome)
         (b.peerInfo (some s)) = true) := by
  unfold policyVerdict sendAllowed recvAllowed
  simp only [senderInactive, hact, Bool.not_true, Bool.false_eq_true, if_false, hs, hr, hq]
  cases h1 : canSend b.limits.maxFdsDefault srules (msgView m) req (b.peerInfo (some r)) <;>
    cases h2 : canReceive b.limits.maxFdsDefault rrules (msgView m) req (decide (a ≠ some r) && (msgView m).dest.isSome)
      (b.peerInfo (some s)) <;> simp

/-- **A denied RequestName changes no ownership.** -/
theorem denied_request_changes_nothing (t : Tx) (c : ConnId) (n : Bytes) (flags : Nat)
    (hv : validateBusName n = true) (h3 : n.head? ≠ some 0x3a) (hb : n ≠ BUS_NAME)
    (h : canOwn (connPolicy t.bus c) n = false) : acquire t c n flags = (t, .error .accessDenied) := by
  unfold acquire
  simp [hv, h3, hb, h]

/-- **A denied message is delivered to no one** (restated from C05): when the gate refuses the
    addressed delivery nothing is delivered at all, eavesdroppers included, and the route ends in the
    gate's error. -/
theorem denied_message_reaches_no_one (t : Tx) (c a : ConnId) (m : Msg) (d : Bytes) (p : List Pending) (e : Err)
    (hd : m.dest = some d) (ha : t.bus.primary? d = some a)
    (hpol : checkPolicy t.bus (some c) (some a) (some a) m = (p, some e)) :
    (route t c m).2 = some e ∧ (route t c m).1.out = t.out ∧ (route t c m).1.bus = (t.setPending p).bus :=
  Dbus.Props.C05.refused_no_delivery t c a m d p e hd ha hpol

/-- **After a reload every registered connection is judged by the new policy**: its rule list is the one
    the new configuration gives its uid and groups — whatever it was allowed before. -/
theorem reloaded_policy_governs (b : Bus) (p : Policy) (c : ConnId) (x : Conn) (hx : b.conn? c = some x) (hn : x.name.isSome = true) :
    connPolicy (reloadPolicy b p) c = p.clientPolicy b.limits.maxFdsDefault x.uid x.gids false := by
  unfold connPolicy
  rw [conn?_reloadPolicy, hx]
  exact reloadConn_policy b p hn

/-- **A RequestName the new policy denies changes nothing — also for a connection that already owns the
    name or waits for it.** The own check comes before anything else is looked at: after a reload
    under which `c` may no longer own `n`, its request is refused with AccessDenied and queue, flags and
    primary owner stay as they are. -/
theorem own_denied_after_reload (t : Tx) (p : Policy) (c : ConnId) (x : Conn) (n : Bytes) (flags : Nat)
    (hx : t.bus.conn? c = some x) (hn : x.name.isSome = true)
    (hden : canOwn (p.clientRules x.uid x.gids false) n = false)
    (h1 : validateBusName n = true) (h2 : (n.head? == some 0x3a) = false) (h3 : (n == BUS_NAME) = false) :
    acquire { t with bus := reloadPolicy t.bus p } c n flags = ({ t with bus := reloadPolicy t.bus p }, .error .accessDenied) := by
  refine denied_request_changes_nothing _ c n flags h1 (by simpa using h2) (by simpa using h3) ?_
  show canOwn (connPolicy (reloadPolicy t.bus p) c) n = false
  rw [reloaded_policy_governs t.bus p c x hx hn, Policy.clientPolicy, Dbus.Proofs.PolicyOpt.canOwn_optimize]
  exact hden

/-! ### the optimizer

  `bus_policy_create_client_policy` ends with `bus_client_policy_optimize`: a rule that decides every
  message (or name) of its type makes the daemon drop the rules of that type before it. The model's
  connections hold the optimized list too. The decisions are those of the documented evaluation over
  the full list — for every rule list, message, request state and peer. (F17 was the optimizer taking
  rules for catch-alls that still skipped some messages; the theorems are about the repaired test.) -/

theorem optimize_changes_no_send_decision (mx : Nat) (rs : List PRule) (v : MsgView) (req : Bool) (recv : PeerInfo) :
    canSend mx (optimize mx rs) v req recv = canSend mx rs v req recv :=
  Dbus.Proofs.PolicyOpt.canSend_optimize mx rs v req recv

theorem optimize_changes_no_receive_decision (mx : Nat) (rs : List PRule) (v : MsgView) (req eav : Bool) (snd : PeerInfo) :
    canReceive mx (optimize mx rs) v req eav snd = canReceive mx rs v req eav snd :=
  Dbus.Proofs.PolicyOpt.canReceive_optimize mx rs v req eav snd

theorem optimize_changes_no_own_decision (mx : Nat) (rs : List PRule) (name : Bytes) :
    canOwn (optimize mx rs) name = canOwn rs name :=
  Dbus.Proofs.PolicyOpt.canOwn_optimize mx rs name

/-- the connection's own list (optimized) and the configuration's full list (contexts in order) decide alike -/
theorem client_policy_decides_as_full_list (p : Policy) (mx uid : Nat) (gids : List Nat) (con : Bool) (v : MsgView) (req eav : Bool)
    (peer : PeerInfo) (name : Bytes) :
    canSend mx (p.clientPolicy mx uid gids con) v req peer = canSend mx (p.clientRules uid gids con) v req peer ∧
    canReceive mx (p.clientPolicy mx uid gids con) v req eav peer = canReceive mx (p.clientRules uid gids con) v req eav peer ∧
    canOwn (p.clientPolicy mx uid gids con) name = canOwn (p.clientRules uid gids con) name :=
  ⟨optimize_changes_no_send_decision _ _ _ _ _, optimize_changes_no_receive_decision _ _ _ _ _ _, optimize_changes_no_own_decision _ _ _⟩

/-- the optimizer does drop rules (non-vacuity): an allow for one interface before a deny of everything, requested replies included, goes;
    F17's witness - a deny that only covers broadcasts - keeps the rule before it -/
example : (optimize 16 [{ allow := true, kind := .send { iface := some [0x61] } }, { allow := false, kind := .send { requestedReply := true } },
                        { allow := true, kind := .own none false }]).length = 2 ∧
    (optimize 16 [{ allow := true, kind := .send { peer := some [0x61] } }, { allow := false, kind := .send { broadcast := .yes } }]).length = 2 := by
  decide

end Dbus.Props.C06
