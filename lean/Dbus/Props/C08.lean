import Dbus.Proofs.AuthStream
/-
  C08 — a peer counts as authenticated only after a valid SASL exchange.

  `run env ops` is the server-side conversation after any history of operations: bytes arriving in
  any chunking (`feed`), replies being written out in any portions (`drain`), and the environment
  committing to keyring/cookie/challenge choices (`oracle`).  `env` (socket credentials, permitted
  mechanisms, user database, number parser, keyring, server owner) is arbitrary.
-/
namespace Dbus.Props.C08
open Dbus.Model Dbus.Model.Auth Dbus.Spec.Auth Dbus.Proofs.Auth

/-- In every reachable state that has got as far as OK (waiting for BEGIN, or authenticated) the
    mechanism recorded is permitted by the server and the authorized identity is exactly what that
    mechanism establishes: EXTERNAL the socket's uid (with the socket's pid, groups, label),
    DBUS_COOKIE_SHA1 the server owner's uid (and the socket's pid), ANONYMOUS no user at all. -/
theorem established_in_every_reachable_state (env : Env) (ops : List Op)
    (h : (run env ops).phase = .waitingForBegin ∨ (run env ops).phase = .authenticated) :
    Established env (run env ops) :=
  (run_inv env ops).begun h

/-- Before a mechanism has said OK nothing is authorized. -/
theorem nothing_authorized_before_ok (env : Env) (ops : List Op)
    (h : (run env ops).phase = .waitingForAuth ∨ (run env ops).phase = .waitingForData) :
    (run env ops).authorized = {} := by
  rcases h with h | h
  · exact ((run_inv env ops).auth h).1
  · exact ((run_inv env ops).data h).1

/-- The only step into Authenticated is a BEGIN line received while waiting for BEGIN. -/
theorem authenticated_only_through_begin (env : Env) (ops : List Op) (line : Bytes)
    (hne : (run env ops).phase.isEnd = false)
    (h : (handleLine env (run env ops) line).phase = .authenticated) :
    (run env ops).phase = .waitingForBegin ∧ cmdOf (splitLine line).1 = .begin :=
  let ⟨a, _, c⟩ := authenticated_step env _ line (run_inv env ops) hne h
  ⟨a, c⟩

/-- EXTERNAL: the identity is the kernel-reported one, whatever the peer asked for. -/
theorem external_identity_is_the_sockets (env : Env) (ops : List Op)
    (h : (run env ops).phase = .authenticated) (hm : (run env ops).mech = some .external) :
    env.permits Mech.external.name = true ∧ env.sock.uid.isSome ∧
    (run env ops).authorized = { uid := env.sock.uid, pid := env.sock.pid, gids := env.sock.gids, label := env.sock.label } := by
  have := established_in_every_reachable_state env ops (Or.inr h)
  simp only [Established, hm] at this
  obtain ⟨hp, u, hu, ha⟩ := this
  exact ⟨hp, by rw [hu]; rfl, by rw [ha, ← hu]⟩

/-- DBUS_COOKIE_SHA1: OK is sent only for the hex SHA-1 of `challenge:client-challenge:cookie`, for the
    cookie the server chose from the keyring. -/
theorem cookie_needs_the_correct_response (env : Env) (s : S) (id : Nat) (data : Bytes)
    (h : (cookieSecond env s id data).phase = .waitingForBegin) :
    ∃ cc hash secret, env.cookies.lookup id = some secret ∧
      cc = data.takeWhile (fun b => !isBlank b) ∧
      hash = (data.dropWhile (fun b => !isBlank b)).dropWhile isBlank ∧
      hash = hexEncode (Sha1.sha1 (s.challenge ++ [COLON] ++ cc ++ [COLON] ++ secret)) := by
  refine cookieSecond_cases (P := fun s' => s'.phase = .waitingForBegin → _) env s id data (fun h => ?_)
    (fun secret hl hh _ => ⟨_, _, secret, hl, rfl, rfl, hh⟩) h
  rw [sendRejected_eq] at h
  dsimp only at h
  split at h <;> cases h

/-- and what it establishes is the server owner's identity -/
theorem cookie_identity_is_the_owners (env : Env) (ops : List Op)
    (h : (run env ops).phase = .authenticated) (hm : (run env ops).mech = some .cookie) :
    env.permits Mech.cookie.name = true ∧
    (run env ops).authorized = { uid := some env.selfUid, pid := env.sock.pid } := by
  have := established_in_every_reachable_state env ops (Or.inr h)
  simpa only [Established, hm] using this

/-- An authenticated connection without a user identity completed ANONYMOUS, and ANONYMOUS is among the
    mechanisms the server permits. -/
theorem anonymous_only_where_permitted (env : Env) (ops : List Op)
    (h : (run env ops).phase = .authenticated) (ha : (run env ops).authorized.anonymous = true) :
    (run env ops).mech = some .anonymous ∧ env.permits Mech.anonymous.name = true ∧
    (run env ops).authorized = { pid := env.sock.pid } := by
  have he := established_in_every_reachable_state env ops (Or.inr h)
  unfold Established at he
  split at he
  · obtain ⟨_, u, _, hau⟩ := he
    simp [Creds.anonymous, hau] at ha
  · simp [Creds.anonymous, he.2] at ha
  · next hm => exact ⟨hm, he.1, he.2⟩
  · exact he.elim

/-- The transport treats the connection as authenticated only when the handshake reached Authenticated and
    the identity passes the gate; an identity without a user passes only where anonymous access is enabled. -/
theorem anonymous_identity_gate (g : Gate) (env : Env) (ops : List Op)
    (h : transportAuthenticated g (run env ops) = true) :
    (run env ops).phase = .authenticated ∧
    ((run env ops).authorized.uid = none → g.allowAnonymous = true) ∧
    (∀ u, (run env ops).authorized.uid = some u →
        match g.userFn with
        | some f => f u = true
        | none => g.allowAnonymous = true ∨ u = 0 ∨ u = g.selfUid) := by
  unfold transportAuthenticated at h
  simp only [Bool.and_eq_true, decide_eq_true_eq] at h
  obtain ⟨hp, hg⟩ := h
  unfold Gate.accepts at hg
  refine ⟨hp, fun hu => ?_, fun u hu => ?_⟩
  · simpa [hu] using hg
  · cases hf : g.userFn with
    | some f => simpa [hu, hf] using hg
    | none => simpa [hu, hf, or_assoc] using hg

/-- CANCEL or ERROR after OK: the identity that had been authorized is forgotten. -/
theorem cancel_forgets_identity (env : Env) (s : S) (line : Bytes) (hp : s.phase = .waitingForBegin)
    (ha : line.all isAscii = true)
    (hc : cmdOf (splitLine line).1 = .cancel ∨ cmdOf (splitLine line).1 = .error) :
    (handleLine env s line).authorized = {} ∧
    ((handleLine env s line).phase = .waitingForAuth ∨ (handleLine env s line).phase = .needDisconnect) := by
  have hr : handleLine env s line = sendRejected env s := by
    unfold handleLine waitingForBegin
    rcases hc with hc | hc <;> simp [ha, hp, hc]
  rw [hr, sendRejected_eq]
  exact ⟨rfl, by dsimp only; split <;> simp⟩

/-- The server never counts more than six rejections … -/
theorem failures_bounded (env : Env) (ops : List Op) : (run env ops).failures ≤ MAX_FAILURES :=
  (run_inv env ops).fails.1

/-- … and has given up once it has counted six. -/
theorem gives_up_after_six (env : Env) (ops : List Op) (h : (run env ops).failures = MAX_FAILURES) :
    (run env ops).phase = .needDisconnect :=
  Decidable.byContradiction fun h' => Nat.ne_of_lt ((run_inv env ops).fails.2 h') h

/-- Every REJECTED line is a counted failure and nothing else is: the failure count is the number of
    REJECTED lines sent, so at most six are ever sent. -/
theorem rejected_counts_failures (env : Env) (ops : List Op) (line : Bytes)
    (hne : (run env ops).phase.isEnd = false) :
    ∃ r, (handleLine env (run env ops) line).outgoing = (run env ops).outgoing ++ r ∧
      (kindOf r = .rejected → r = rejectedLine env ∧
          (handleLine env (run env ops) line).failures = (run env ops).failures + 1) ∧
      (kindOf r ≠ .rejected → (handleLine env (run env ops) line).failures = (run env ops).failures) :=
  let ⟨r, h⟩ := handleLine_step env _ line (run_inv env ops) hne
  ⟨r, h.out, h.counted, h.uncounted⟩

/-- Authenticated and NeedDisconnect are final: whatever arrives afterwards changes neither the state nor
    the identity, and produces no reply. -/
theorem end_states_are_final (env : Env) (s : S) (h : s.phase.isEnd = true) (bs : Bytes) :
    (feed env s bs).phase = s.phase ∧ (feed env s bs).authorized = s.authorized ∧
    (feed env s bs).outgoing = s.outgoing ∧ (feed env s bs).incoming = s.incoming ++ bs := by
  unfold feed
  rw [doWork_end env _ _ (by simpa using h)]
  exact ⟨rfl, rfl, rfl, rfl⟩

/-- At most MAX_BUFFER (16 KiB) of handshake input is kept while the conversation goes on. -/
theorem buffers_bounded (env : Env) (ops : List Op) (h : (run env ops).phase.isEnd = false) :
    (run env ops).incoming.length ≤ MAX_BUFFER := by
  -- `feed` and `drain` end in `doWork` with more fuel than there are bytes
  have work (t : S) (h : (doWork env (t.incoming.length + 1) t).phase.isEnd = false) :
      (doWork env (t.incoming.length + 1) t).incoming.length ≤ MAX_BUFFER :=
    ((doWork_bound env _ t (Nat.lt_succ_self _)).resolve_left (by rw [h]; nofun)).1
  refine List.foldlRecOn ops (Op.apply env) (motive := fun s => s.phase.isEnd = false → s.incoming.length ≤ MAX_BUFFER)
    (fun _ => Nat.zero_le _) (fun s ih op _ h => ?_) h
  cases op with
  | feed bs => exact work _ h
  | drain n => exact work _ h
  | oracle t => exact ih h

/-- Once either buffer is over the limit the server processes nothing further: it gives up. -/
theorem overflow_gives_up (env : Env) (s : S) (fuel : Nat) (hne : s.phase.isEnd = false)
    (h : s.incoming.length > MAX_BUFFER ∨ s.outgoing.length > MAX_BUFFER) :
    doWork env (fuel + 1) s = { s with phase := .needDisconnect } := by
  unfold doWork
  simp [hne, h]

/-- all bytes fed so far -/
def fed : List Op → Bytes
  | [] => []
  | .feed bs :: ops => bs ++ fed ops
  | _ :: ops => fed ops

theorem fed_append (ops ops' : List Op) : fed (ops ++ ops') = fed ops ++ fed ops' := by
  induction ops with
  | nil => rfl
  | cons op ops ih => cases op <;> simp [fed, ih]

/-- No byte before BEGIN is message data: the bytes the peer has sent are, in order, the lines the server
    has consumed followed by what is still buffered; when the handshake is complete the consumed part ends
    with the BEGIN line (received in WaitingForBegin), so the unused bytes handed to the message loader are
    exactly those that followed it — in whatever chunks the bytes arrived. -/
theorem nothing_before_begin_is_message_data (env : Env) (ops : List Op) :
    ∃ pre, fed ops = pre ++ (run env ops).incoming ∧ LinesPrefix pre ∧
      ((run env ops).phase = .authenticated → EndsWithBegin pre) := by
  suffices h : ∃ pre, fed ops = pre ++ (run env ops).incoming ∧
      Consumed .waitingForAuth (run env ops).phase pre by
    obtain ⟨pre, h1, h2⟩ := h
    exact ⟨pre, h1, h2.lines, fun ha => (h2.begin ha).resolve_left nofun⟩
  induction ops using snoc_induction with
  | nil => exact ⟨[], rfl, .refl _⟩
  | snoc ops op ih =>
    obtain ⟨pre0, h1, h2⟩ := ih
    rw [run_snoc, fed_append, h1]
    -- `feed` and `drain` end in `doWork`: what that consumes goes behind `pre0`
    have work (t : S) (hit : Inv env t) (hph : t.phase = (run env ops).phase) (fuel : Nat) :
        ∃ pre, pre0 ++ t.incoming = pre ++ (doWork env fuel t).incoming ∧
          Consumed .waitingForAuth (doWork env fuel t).phase pre := by
      obtain ⟨p, q1, q2⟩ := doWork_stream env fuel t hit
      exact ⟨pre0 ++ p, by rw [List.append_assoc, ← q1], h2.trans (hph ▸ q2)⟩
    have hi := run_inv env ops
    cases op with
    | feed bs =>
      exact (work { run env ops with incoming := (run env ops).incoming ++ bs } (hi.buffers _ _ _) rfl _).imp
        fun pre h => ⟨Eq.trans (by simp [fed]) h.1, h.2⟩
    | drain n =>
      exact (work { run env ops with outgoing := (run env ops).outgoing.drop n } (hi.buffers _ _ _) rfl _).imp
        fun pre h => ⟨Eq.trans (by simp [fed]) h.1, h.2⟩
    | oracle t => exact ⟨pre0, by simp [fed, Op.apply], h2⟩

/-- For every command line in every reachable state the server answers as the specification's state
    machine prescribes (`Dbus.Spec.Auth.specAllows`): the reply kind and the successor state are among those
    the specification permits for that state and command; a line that is not ASCII gets ERROR and changes
    nothing. -/
theorem conforms_to_specification (env : Env) (ops : List Op) (line : Bytes)
    (hne : (run env ops).phase.isEnd = false) :
    ∃ r, (handleLine env (run env ops) line).outgoing = (run env ops).outgoing ++ r ∧
      (line.all isAscii = true →
        specAllows (run env ops).phase (cmdOf (splitLine line).1) (kindOf r) (handleLine env (run env ops) line).phase = true) ∧
      (line.all isAscii = false → kindOf r = .error ∧ (handleLine env (run env ops) line).phase = (run env ops).phase) := by
  obtain ⟨r, h⟩ := handleLine_step env _ line (run_inv env ops) hne
  exact ⟨r, h.out, fun ha => lineAllows_ascii ha _ ▸ h.spec, fun ha => (lineAllows_other ha).mp h.spec⟩

/-! ### the hypotheses are satisfiable: concrete conversations (kernel-evaluated) -/

def demoEnv : Env :=
  { allowed := some [Mech.external.name, Mech.anonymous.name], sock := { uid := some 1000, pid := some 7 }, guid := [0x61],
    fdPossible := true, selfUid := 0, context := [], parseNumber := parseNumber, lookupUser := fun _ => none, cookies := [] }

/-- "AUTH EXTERNAL 31303030\r\n" in two chunks, then "NEGOTIATE_UNIX_FD\r\nBEGIN\r\nl" -/
def demoOps : List Op := [.feed [0x41,0x55,0x54,0x48,0x20,0x45,0x58,0x54,0x45,0x52], .feed [0x4e,0x41,0x4c,0x20,0x33,0x31,0x33,0x30,0x33,0x30,0x33,0x30,0x0d,0x0a], .drain 5, .feed [0x4e,0x45,0x47,0x4f,0x54,0x49,0x41,0x54,0x45,0x5f,0x55,0x4e,0x49,0x58,0x5f,0x46,0x44,0x0d,0x0a,0x42,0x45,0x47,0x49,0x4e,0x0d,0x0a,0x6c]]

example : (run demoEnv demoOps).phase = .authenticated ∧ (run demoEnv demoOps).mech = some .external ∧
    (run demoEnv demoOps).authorized = { uid := some 1000, pid := some 7 } ∧ (run demoEnv demoOps).incoming = [0x6c] ∧
    (run demoEnv demoOps).fdNeg = true := by decide +kernel

/-- EXTERNAL, OK, CANCEL, then ANONYMOUS: the identity is the anonymous one -/
def demoOps2 : List Op := [.feed [0x41,0x55,0x54,0x48,0x20,0x45,0x58,0x54,0x45,0x52,0x4e,0x41,0x4c,0x20,0x33,0x31,0x33,0x30,0x33,0x30,0x33,0x30,0x0d,0x0a,0x43,0x41,0x4e,0x43,0x45,0x4c,0x0d,0x0a,0x41,0x55,0x54,0x48,0x20,0x41,0x4e,0x4f,0x4e,0x59,0x4d,0x4f,0x55,0x53,0x0d,0x0a,0x42,0x45,0x47,0x49,0x4e,0x0d,0x0a]]

example : (run demoEnv demoOps2).phase = .authenticated ∧ (run demoEnv demoOps2).mech = some .anonymous ∧
    (run demoEnv demoOps2).authorized = { pid := some 7 } ∧ (run demoEnv demoOps2).failures = 1 := by decide +kernel

/-- six rejections end the conversation -/
def demoOps3 : List Op := [.feed [0x41,0x55,0x54,0x48,0x0d,0x0a,0x41,0x55,0x54,0x48,0x0d,0x0a,0x41,0x55,0x54,0x48,0x0d,0x0a,0x41,0x55,0x54,0x48,0x0d,0x0a,0x41,0x55,0x54,0x48,0x0d,0x0a,0x41,0x55,0x54,0x48,0x0d,0x0a,0x41,0x55,0x54,0x48,0x0d,0x0a]]

example : (run demoEnv demoOps3).phase = .needDisconnect ∧ (run demoEnv demoOps3).failures = 6 := by decide +kernel

end Dbus.Props.C08
