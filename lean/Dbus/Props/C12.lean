import Dbus.Proofs.MessageLevel
/-
  C12 — header edits keep a message valid and touch nothing else.

  Edits are functions on the abstract field list; the K-tie shows that the library's in-place
  editing (reserve padding, realign, re-pad, invalidate cache) produces `encodeMsg` of the
  edited message byte for byte after every operation.
-/
namespace Dbus.Props.C12
open Dbus.Spec Dbus.Model Dbus.Proofs.Message

/-- the edited field reads back as set -/
theorem set_reads_back : ∀ (fs : List Field) (f : Field), getField (setFieldList fs f) f.code = some f.val :=
  fun fs f => by rw [getField_set, if_pos rfl]

/-- every other field is untouched by a set -/
theorem set_frame : ∀ (fs : List Field) (f : Field) (c : Nat), c ≠ f.code →
    getField (setFieldList fs f) c = getField fs c :=
  fun fs f c hc => by rw [getField_set, if_neg (Ne.symm hc)]

/-- a deleted field is gone when it occurred once (known fields occur at most once in any
    message that was accepted from the wire or built through the API) -/
theorem delete_removes : ∀ (fs : List Field) (c : Nat), (fs.filter (·.code = c)).length ≤ 1 →
    getField (deleteFieldList fs c) c = none
  | [], c, _ => rfl
  | g :: fs, c, h => by
    rw [deleteFieldList]
    by_cases hg : g.code = c
    · -- the one occurrence is at the head: the tail has none
      rw [if_pos hg]
      rw [List.filter_cons_of_pos (by simpa using hg), List.length_cons] at h
      have h0 : fs.filter (·.code = c) = [] := List.length_eq_zero_iff.1 (by omega)
      exact getField_eq_none.2 fun f hf h => List.filter_eq_nil_iff.1 h0 f hf (decide_eq_true h)
    · rw [if_neg hg, getField_cons, if_neg hg]
      exact delete_removes fs c (by rwa [List.filter_cons_of_neg (by simpa using hg)] at h)

/-- every other field is untouched by a delete -/
theorem delete_frame : ∀ (fs : List Field) (c c' : Nat), c' ≠ c →
    getField (deleteFieldList fs c) c' = getField fs c'
  | [], _, _, _ => rfl
  | g :: fs, c, c', hc => by
    rw [deleteFieldList, getField_cons g fs]
    by_cases hg : g.code = c
    · rw [if_pos hg, if_neg (fun h => hc (h.symm.trans hg))]
    · rw [if_neg hg, getField_cons, delete_frame fs c c' hc]

/-- stripping unknown fields keeps every known field and removes every unknown one -/
theorem removeUnknown_frame (fs : List Field) (c : Nat) (hc : c ≤ FIELD_LAST) :
    getField (removeUnknownList fs) c = getField fs c :=
  getField_removeUnknown fs c hc

theorem removeUnknown_all_known (fs : List Field) : ∀ f ∈ removeUnknownList fs, f.code ≤ FIELD_LAST := by
  intro f hf
  unfold removeUnknownList at hf
  simpa using (List.mem_filter.1 hf).2

/-- flags, type, body and signature types are not touched by any header edit; the serial
    only by `setSerial` -/
theorem edit_leaves_rest (m : Msg) (op : EditOp) :
    (applyEdit m op).mtype = m.mtype ∧ (applyEdit m op).flags = m.flags ∧
    (applyEdit m op).body = m.body ∧ (applyEdit m op).bodyTypes = m.bodyTypes ∧
    (applyEdit m op).endian = m.endian := by
  cases op <;> exact ⟨rfl, rfl, rfl, rfl, rfl⟩

/-- **Edited messages stay loadable**: whenever the edited abstract message is well-formed
    (in particular: the mandatory fields for its type are still there), its serialised form is
    a valid message that parses back to exactly the edited message. -/
theorem edit_roundtrip (mx fds : Nat) (m : Msg) (op : EditOp) (h : WFMsg mx fds (applyEdit m op)) :
    loadOne true mx fds (encodeMsg (applyEdit m op)) =
      .ok (applyEdit m op) (encodeMsg (applyEdit m op)).length :=
  loadOne_encodeMsg_self h

/-- **Padding is exact**: the serialised header always ends on an 8-byte boundary. -/
theorem padding_exact (m : Msg) : ((encodeMsg m).length - (encodeBody m).length) % 8 = 0 := by
  rw [encodeMsg_length, Nat.add_sub_cancel]
  exact align8_mod _

/-! ### edits keep a message valid

  Every header edit the API admits turns a well-formed message into a well-formed message, so that `edit_roundtrip`
  applies unconditionally (`edit_keeps_valid`, `edits_keep_valid`, `edits_roundtrip`).  The preconditions are the
  API's own (`EditOK`): a field is set to a value the setter's validity check lets through (`SetOK`: a known code other
  than SIGNATURE and UNIX_FDS, which the library derives from the body; the value of the prescribed type with valid
  contents), the serial is not set to 0, a deletion leaves the fields mandatory for the type, and the message stays within
  the size limits - the one clause that an edit making a field longer can break, and that the library checks when the
  message is sent, not when it is edited.  Removing fields needs no size hypothesis: `fieldsLen_sublist` proves that
  the field array does not grow. -/

/-- what the API's setters demand of the new field -/
structure SetOK (e : Endian) (f : Field) : Prop where
  known : f.code ≤ FIELD_LAST
  not_signature : f.code ≠ FIELD_SIGNATURE
  not_unix_fds : f.code ≠ FIELD_UNIX_FDS
  ok : FieldOK f
  wf : FieldWF e f

/-- the message with its fields replaced is within the size limits -/
def SizesOK (mx : Nat) (m : Msg) (fs : List Field) : Prop :=
  fieldsLen m.endian fs ≤ MAX_ARRAY_LENGTH ∧ fieldsLen m.endian fs ≤ mx ∧
    align8 (16 + fieldsLen m.endian fs) + (encodeBody m).length ≤ mx

/-- **Setting a field** (first time, longer, shorter) keeps a valid message valid -/
theorem set_keeps_valid (mx fds : Nat) (m : Msg) (f : Field) (h : WFMsg mx fds m) (hf : SetOK m.endian f)
    (hsz : SizesOK mx m (setFieldList m.fields f)) : WFMsg mx fds (applyEdit m (.set f)) :=
  wfMsg_fields h _ hsz (forall_mem_setFieldList (header_wf_fields_of _ _ _ _ _ _ _ h.header_wf).2 hf.wf)
    (checkFields_set _ _ h.fields_ok hf.known hf.ok) (mandatoryOK_set _ _ _ h.mandatory)
    (set_frame _ _ _ (Ne.symm hf.not_signature)) (set_frame _ _ _ (Ne.symm hf.not_unix_fds))

/-- **Deleting a field** that is not mandatory for the type keeps a valid message valid -/
theorem delete_keeps_valid (mx fds : Nat) (m : Msg) (c : Nat) (h : WFMsg mx fds m)
    (hs : c ≠ FIELD_SIGNATURE) (hu : c ≠ FIELD_UNIX_FDS)
    (hman : mandatoryOK m.mtype (deleteFieldList m.fields c) = true) : WFMsg mx fds (applyEdit m (.delete c)) :=
  wfMsg_sublist h (deleteFieldList_sublist m.fields c) hman
    (delete_frame _ _ _ (Ne.symm hs)) (delete_frame _ _ _ (Ne.symm hu))

/-- **Stripping unknown fields** keeps a valid message valid - no side condition at all -/
theorem removeUnknown_keeps_valid (mx fds : Nat) (m : Msg) (h : WFMsg mx fds m) :
    WFMsg mx fds (applyEdit m .removeUnknown) :=
  wfMsg_sublist h (removeUnknownList_sublist m.fields) (by rw [mandatoryOK_removeUnknown]; exact h.mandatory)
    (removeUnknown_frame _ _ (by decide)) (removeUnknown_frame _ _ (by decide))

/-- `dbus_message_set_serial` with a serial that is not 0 (the API's precondition) keeps a valid message valid -/
theorem setSerial_keeps_valid (mx fds : Nat) (m : Msg) (n : Nat) (h : WFMsg mx fds m) (hn : n ≠ 0) (hlt : n < 2 ^ 32) :
    WFMsg mx fds (applyEdit m (.setSerial n)) := by
  obtain ⟨h1, h2, h3, h4, _, h6⟩ := (header_wf_iff ..).1 h.header_wf
  exact { h with serial_ne := hn, header_wf := (header_wf_iff ..).2 ⟨h1, h2, h3, h4, hlt, h6⟩ }

/-- … so the message with its new serial serialises to bytes that load back as exactly that message -/
theorem setSerial_roundtrip (mx fds : Nat) (m : Msg) (n : Nat) (h : WFMsg mx fds m) (hn : n ≠ 0) (hlt : n < 2 ^ 32) :
    loadOne true mx fds (encodeMsg (applyEdit m (.setSerial n))) =
      .ok (applyEdit m (.setSerial n)) (encodeMsg (applyEdit m (.setSerial n))).length :=
  edit_roundtrip mx fds m (.setSerial n) (setSerial_keeps_valid mx fds m n h hn hlt)

/-- the API's preconditions for one edit of the message `m` -/
def EditOK (mx : Nat) (m : Msg) : EditOp → Prop
  | .set f => SetOK m.endian f ∧ SizesOK mx m (setFieldList m.fields f)
  | .delete c => c ≠ FIELD_SIGNATURE ∧ c ≠ FIELD_UNIX_FDS ∧ mandatoryOK m.mtype (deleteFieldList m.fields c) = true
  | .removeUnknown => True
  | .setSerial n => n ≠ 0 ∧ n < 2 ^ 32

/-- **One edit keeps a valid message valid.** -/
theorem edit_keeps_valid (mx fds : Nat) (m : Msg) (op : EditOp) (h : WFMsg mx fds m) (hop : EditOK mx m op) :
    WFMsg mx fds (applyEdit m op) := by
  cases op with
  | set f => exact set_keeps_valid mx fds m f h hop.1 hop.2
  | delete c => exact delete_keeps_valid mx fds m c h hop.1 hop.2.1 hop.2.2
  | removeUnknown => exact removeUnknown_keeps_valid mx fds m h
  | setSerial n => exact setSerial_keeps_valid mx fds m n h hop.1 hop.2

/-- every edit of the sequence meets the API's preconditions on the message as it then is -/
def EditsOK (mx : Nat) : Msg → List EditOp → Prop
  | _, [] => True
  | m, op :: ops => EditOK mx m op ∧ EditsOK mx (applyEdit m op) ops

/-- **Any sequence of edits keeps a valid message valid** -/
theorem edits_keep_valid (mx fds : Nat) : ∀ (ops : List EditOp) (m : Msg), WFMsg mx fds m → EditsOK mx m ops →
    WFMsg mx fds (ops.foldl applyEdit m)
  | [], _, h, _ => h
  | op :: ops, m, h, hops => edits_keep_valid mx fds ops _ (edit_keeps_valid mx fds m op h hops.1) hops.2

/-- … and so the edited message serialises to bytes that load back as exactly the edited message -/
theorem edits_roundtrip (mx fds : Nat) (ops : List EditOp) (m : Msg) (h : WFMsg mx fds m) (hops : EditsOK mx m ops) :
    loadOne true mx fds (encodeMsg (ops.foldl applyEdit m)) =
      .ok (ops.foldl applyEdit m) (encodeMsg (ops.foldl applyEdit m)).length :=
  loadOne_encodeMsg_self (edits_keep_valid mx fds ops m h hops)

/-! ### non-vacuity: a concrete well-formed message and a concrete admissible sequence of edits -/

open Dbus.Proofs.Wire in
/-- a method return (REPLY_SERIAL 9, serial 1, no body) -/
def exampleReturn : Msg :=
  { endian := Endian.little, mtype := 2, flags := 0, version := 1, serial := 1,
    fields := [{ code := 5, ty := .basic .u32, val := .fixed .u32 9 }],
    bodyTypes := [], body := [] }

open Dbus.Proofs.Wire in
theorem exampleReturn_wf : WFMsg 4096 0 exampleReturn := by
  refine { mtype_ne := by decide, version_eq := rfl, serial_ne := by decide, header_wf := ?_, fields_ok := by decide, mandatory := by decide,
           body_types := rfl, body_wf := trivial, falen_le := ?_, blen_le := ?_, total_le := ?_, fds_ok := by decide }
  · refine (header_wf_iff ..).2 ⟨by decide, by decide, by decide, by decide, by decide, by decide, ?_⟩
    intro f hf
    cases List.mem_singleton.1 hf
    exact fieldWF_basic (by decide) fun _ _ => wfVal_fixed_iff.2 ⟨rfl, rfl, by decide, nofun⟩
  · decide
  · decide
  · decide

theorem dest_setok (e : Endian) : SetOK e { code := FIELD_DESTINATION, ty := .basic .str, val := .str .str [0x61, 0x2e, 0x62] } := by
  refine ⟨by decide, by decide, by decide, ⟨by decide, fun _ => ⟨.str, rfl, rfl, by decide⟩⟩, ?_⟩
  exact fieldWF_basic (by decide) fun _ _ => Dbus.Proofs.Wire.wfVal_str_iff.2 ⟨rfl, rfl, by decide,
    fun _ => (Props.C16.validateUtf8_iff _).1 (by decide +kernel), nofun, nofun⟩

/-- non-vacuity of `SetOK`: a DESTINATION field `a.b` is one the setter admits -/
example (e : Endian) : SetOK e { code := FIELD_DESTINATION, ty := .basic .str, val := .str .str [0x61, 0x2e, 0x62] } :=
  dest_setok e

/-- non-vacuity of `edits_keep_valid`: on a method return, set the destination, then strip unknown fields, then give it serial 5 -/
example : WFMsg 4096 0 ([EditOp.set { code := FIELD_DESTINATION, ty := .basic .str, val := .str .str [0x61, 0x2e, 0x62] }, .removeUnknown,
                         .setSerial 5].foldl applyEdit exampleReturn) := by
  refine edits_keep_valid 4096 0 _ exampleReturn exampleReturn_wf ⟨⟨dest_setok _, ?_⟩, trivial, ⟨by decide, by decide⟩, trivial⟩
  unfold SizesOK
  decide

end Dbus.Props.C12
