import Dbus.Proofs.Bus.Names
import Dbus.Proofs.Bus.Sender
/-
  C03 — the bus stamps the true sender; unique names are unique for ever.

  Statements are about the executable bus model `Dbus.Model.Bus` (tied to bus/dispatch.c,
  bus/driver.c, bus/connection.c by the differential histories of `bin/check C03`).
-/
namespace Dbus.Props.C03
open Dbus.Model Dbus.Model.Bus Dbus.Proofs.Bus

/-- **Sender and header hygiene, for every message and every state.**  Whatever a client puts on
    the wire (forged SENDER, unknown field codes, CONTAINER_INSTANCE, any type), every message the
    bus hands to any connection while processing it has only header fields 1..9 and carries as sender
    org.freedesktop.DBus, or the unique name of the connection that sent it (the name it had, or the
    one Hello has just given it) — or, in the one recorded exception (F14: a method call without
    destination is answered by the connection layer), no sender at all, and then it goes back to
    the caller only. -/
theorem delivered_sender_and_fields (tbl : List IfaceRow) (b : Bus) (c : ConnId) (m0 : Msg)
    (hci : (m0.fields.filter (·.code = 10)).length ≤ 1) :
    ∀ o ∈ (dispatch tbl b c m0).2,
      match o with
      | .deliver to x => KnownFields x ∧ SenderOK b (dispatch tbl b c m0).1 c m0 to x
      | _ => True := by
  have hk : KnownFields (stamped b c m0) := known_setSender (known_strip hci) _
  -- the claim about one output `o`, when the step ends in the state `b'`
  let Q (b' : Bus) (o : Out) : Prop :=
    match o with
    | .deliver to x => KnownFields x ∧ SenderOK b b' c m0 to x
    | _ => True
  -- the bus's own messages, and a forward `y` of the client's message under one of its two names
  have ok : ∀ (b' : Bus) (y : Msg), KnownFields y → (y.sender = some (senderNameOf b c) ∨ y.sender = some (senderNameOf b' c)) →
      ∀ o, OutOK (· = y) o → Q b' o := by
    intro b' y hy hs o ho
    match o, ho with
    | .deliver to x, .inl h => exact ⟨h.2, .inl h.1⟩
    | .deliver to x, .inr h => exact h ▸ ⟨hy, .inr (hs.imp id .inl)⟩
    | .opaque _ _, _ => trivial
    | .close _, _ => trivial
  have own : (strip m0).dest = none → ∀ x, KnownFields x ∧ x.sender = none → KnownFields x ∧ SenderOK b b c m0 c x :=
    fun hd x hx => ⟨hx.1, .inr (.inr (.inr ⟨hx.2, rfl, hd⟩))⟩
  have dropped : ∀ o ∈ (dropConn b c).out, Q (dropConn b c).bus o :=
    fun o ho => ok _ _ hk (.inl (sender_setSender ..)) o (Made.ok (dropConn_outputs b c o ho))
  refine dispatch_cases (P := fun r : Tx => ∀ o ∈ r.out, Q r.bus o) tbl b c m0
      (unknown := fun _ o ho => by cases ho)
      (peer := fun _ _ hd _ o ho => ?_)
      (monitor := fun _ _ _ _ => dropped)
      (builtin := fun _ _ _ _ hd _ o ho => ?_)
      (driver := fun _ _ _ _ _ _ => ?_)
      (unnamed := fun _ _ _ _ _ _ _ => dropped)
      (routed := fun _ _ _ _ _ _ _ => ?_)
  · rw [List.mem_singleton.mp ho]; exact own hd _ (peerFilter_ok _)
  · obtain ⟨y, hy, rfl⟩ := List.mem_map.mp ho
    exact own hd y (builtin_ok _ y hy)
  · have h := step_dispatch_driver tbl b c (stamped b c m0)
    have hn : senderNameOf (sweepMonitors (finish (toDriver tbl { bus := b } c (stamped b c m0)) c (stamped b c m0))).bus c =
        senderNameOf (toDriver tbl { bus := b } c (stamped b c m0)).1.bus c :=
      senderNameOf_core ((sweepMonitors_core _).trans (finish_core ..)) c
    exact fun o ho => ok _ _ (known_setSender hk _) (.inr (by rw [sender_setSender, hn])) o (h.out.all rfl o ho)
  · have h := step_dispatch_routed b c (stamped b c m0)
    exact fun o ho => ok _ _ hk (.inl (sender_setSender ..)) o (h.out.all rfl o ho)

/-- the hypothesis of `delivered_sender_and_fields` holds for everything the message loader accepts -/
theorem loader_guarantees_hypothesis {mx fds : Nat} {bs : Bytes} {m : Msg} {n : Nat}
    (h : loadOne true mx fds bs = .ok m n) : (m.fields.filter (·.code = 10)).length ≤ 1 :=
  checkFields_ci_once m.fields (Dbus.Proofs.Message.loadOne_sound h).2.2.fields_ok

/-- the other events (a connection vanishing, by its own doing or the bus's) produce bus-made
    messages only -/
theorem disconnect_outputs_bus_made (b : Bus) (c : ConnId) :
    ∀ o ∈ (disconnect b c).2, match o with | .deliver _ x => BusMade x | _ => True :=
  fun o ho => Made.busMade (disconnect_outputs b c o ho)

def pingNoDest : Msg :=
  { endian := .little, mtype := 1, flags := 0, version := 1, serial := 7,
    fields := [pathField DBUS_PATH, strField FIELD_MEMBER [0x50, 0x69, 0x6e, 0x67]], bodyTypes := [], body := [] }

/-- F14 on a concrete input: a `Ping` with no destination is answered without a sender field -/
theorem f14_witness :
    (builtinReply (strip pingNoDest)).map (fun x => (x.sender, x.replySerial)) = [(none, 7)] := by
  decide

/-- **A second Hello changes nothing.** -/
theorem hello_twice_refused (t : Tx) (c : ConnId) (m : Msg) (h : t.bus.isActive c = true) :
    hello t c m = (t, some .failed) := by
  unfold hello; simp [h]

/-- **Unique names.** In every state the bus can reach from its start, by any history of
    connects, messages (valid or not) and disconnects: no name was ever handed out twice, every
    connected client's name is one of the names handed out, begins with ':', and no two connected
    clients share a name. -/
theorem unique_names (tbl : List IfaceRow) (l : Limits) (p : Policy) (evs : List Ev) :
    let b := (run tbl { limits := l, policy := p } evs).1
    b.minted.Nodup ∧
    (∀ x ∈ b.conns, ∀ n, x.name = some n → n ∈ b.minted ∧ n.head? = some 0x3a) ∧
    ((b.conns.filterMap (·.name)).Nodup) := by
  intro b
  have hi : NamesInv b := namesInv_run tbl l p evs
  refine ⟨hi.minted_nodup, ?_, ?_⟩
  · intro x hx n hn
    have hm := hi.live_minted (x.id, x.name) (List.mem_map.mpr ⟨x, hx, rfl⟩) n hn
    obtain ⟨M, m, e, _⟩ := hi.minted_form n hm
    exact ⟨hm, e ▸ uniqueName_head M m⟩
  · have := hi.live_distinct
    simpa [names, List.filterMap_map, Function.comp_def] using this

/-- different counter values, different names -/
theorem names_injective {M m M' m' : Nat} (h : uniqueName M m = uniqueName M' m') : M = M' ∧ m = m' :=
  uniqueName_inj h

/-- **A name, once given, stays.** One step of the bus leaves every named connection's name
    alone — unless that connection is the one being disconnected — and gives a name only to the
    connection whose message is being processed, and only if it had none. -/
theorem name_is_for_life (tbl : List IfaceRow) (b : Bus) (ev : Ev) (hi : NamesInv b) :
    ∀ p ∈ names b, ∀ n, p.2 = some n →
      p ∈ names (step tbl b ev).1 ∨ (p.1 = evConn ev ∧ p.1 ∉ (names (step tbl b ev).1).map Prod.fst) := by
  intro p hp n hn
  have s := nameStep_step tbl b ev hi
  by_cases hc : p.1 = evConn ev
  · obtain ⟨i, nm⟩ := p
    subst hc; subst hn
    exact (s.own n hp).imp_right fun h => ⟨rfl, h⟩
  · exact .inl (s.others p hp hc)

def helloMsg : Msg :=
  { endian := .little, mtype := 1, flags := 0, version := 1, serial := 1,
    fields := [pathField DBUS_PATH, strField FIELD_INTERFACE BUS_NAME, strField FIELD_MEMBER [0x48, 0x65, 0x6c, 0x6c, 0x6f],
               strField FIELD_DESTINATION BUS_NAME], bodyTypes := [], body := [] }

def helloTable : List IfaceRow := [⟨BUS_NAME, true, [⟨[0x48, 0x65, 0x6c, 0x6c, 0x6f], [], true, false⟩]⟩]

/-- the hypotheses are met by a reachable, non-trivial state: a bus with one connection that has
    said Hello (and got the name ":1.0") -/
example : NamesInv (run helloTable {} [.connect 1 0 [] false, .msg 1 helloMsg]).1 ∧
    names (run helloTable {} [.connect 1 0 [] false, .msg 1 helloMsg]).1 = [(1, some [0x3a, 0x31, 0x2e, 0x30])] :=
  ⟨namesInv_run _ _ _ _, by decide +kernel⟩

end Dbus.Props.C03
