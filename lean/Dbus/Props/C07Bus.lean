import Dbus.Proofs.Bus.Frame
/-
  C07 at the level of the whole bus: a broadcast reaches exactly the connections whose match rules
  match it (and whom policy lets receive it), once each.
-/
namespace Dbus.Props.C07Bus
open Dbus.Model Dbus.Model.Bus Dbus.Proofs.Bus

/-- who is considered: the connections (monitors aside, the addressed recipient aside) holding a rule
    that matches the message -/
theorem recipient_iff (b : Bus) (s a : Option ConnId) (m : Msg) (r : ConnId) :
    r ∈ recipients b s a m ↔
      ∃ x ∈ b.conns, x.id = r ∧ x.monitor = false ∧ some r ≠ a ∧
        ∃ rule ∈ x.rules, ruleMatches rule (matchCtx b s a m) = true :=
  mem_recipients b s a m r

/-- nobody is considered twice -/
theorem recipients_nodup (b : Bus) (s a : Option ConnId) (m : Msg) (hn : (b.conns.map (·.id)).Nodup) :
    (recipients b s a m).Nodup := by
  unfold recipients
  exact hn.sublist (List.Sublist.map _ List.filter_sublist)

theorem gate_broadcast_pending (b : Bus) (s : Option ConnId) (r : ConnId) (m : Msg) :
    (checkPolicy b s none (some r) m).1 = b.pending :=
  checkPolicy_pending_same b (.inr rfl) (some r) m

/-- whether one candidate gets its copy: the gate (sender's send rules, its own receive rules) and,
    for messages with file descriptors, whether it can take them -/
def admitted (b : Bus) (s : Option ConnId) (m : Msg) (r : ConnId) : Bool :=
  (checkPolicy b s none (some r) m).2.isNone && !(decide (m.nFds > 0) && !canFdOf b r)

theorem sendOne_broadcast (t : Tx) (s : Option ConnId) (r : ConnId) (m : Msg) :
    (sendOne t s none r m).bus = t.bus ∧
    (sendOne t s none r m).out = t.out ++ (if admitted t.bus s m r then [Out.deliver r m] else []) := by
  have h : checkPolicy t.bus s none (some r) m = (t.bus.pending, (checkPolicy t.bus s none (some r) m).2) :=
    Prod.ext (gate_broadcast_pending t.bus s r m) rfl
  unfold admitted
  refine sendOne_cases (P := fun T => T.bus = t.bus ∧ T.out = t.out ++ _) h (fun e he => ?_) (fun he hf => ?_) fun he hf => ?_
  · rw [he]; exact ⟨captureError_bus .., (captureError_out ..).trans (List.append_nil _).symm⟩
  · rw [he, hf]; exact ⟨captureError_bus .., (captureError_out ..).trans (List.append_nil _).symm⟩
  · rw [he, hf]; exact ⟨rfl, rfl⟩

theorem sendMatches_broadcast_fold (s : Option ConnId) (m : Msg) : ∀ (rs : List ConnId) (t : Tx),
    (rs.foldl (fun t r => sendOne t s none r m) t).bus = t.bus ∧
    (rs.foldl (fun t r => sendOne t s none r m) t).out =
      t.out ++ (rs.filter (admitted t.bus s m)).map (Out.deliver · m)
  | [], t => by simp
  | r :: rs, t => by
    simp only [List.foldl_cons]
    obtain ⟨hb, ho⟩ := sendOne_broadcast t s r m
    obtain ⟨h1, h2⟩ := sendMatches_broadcast_fold s m rs (sendOne t s none r m)
    refine ⟨h1.trans hb, ?_⟩
    rw [h2, ho, hb]
    cases ha : admitted t.bus s m r <;> simp [ha]

/-- **Broadcasts.** A message without addressed recipient (a broadcast signal from a client, a
    NameOwnerChanged from the bus) is delivered to exactly the connections that hold a matching rule
    and are admitted by the gate — one copy each, in connection order — and the state is untouched. -/
theorem broadcast_reaches_exactly_the_matching (t : Tx) (s : Option ConnId) (m : Msg) :
    (sendMatches t s none m).bus = t.bus ∧
    (sendMatches t s none m).out =
      t.out ++ ((recipients t.bus s none m).filter (admitted t.bus s m)).map (Out.deliver · m) :=
  sendMatches_broadcast_fold s m _ t

/-- rules are dropped with their owner: after a disconnect the connection is not among the
    connections any more, so none of its rules can select a recipient -/
theorem disconnected_gets_nothing (b : Bus) (c : ConnId) (x : Conn) (hx : b.conn? c = some x) :
    ∀ y ∈ (disconnect b c).bus.conns, y.id ≠ c :=
  disconnect_gone b c

/-- **`sender='name'` means "sent by the name's present owner"**: a rule naming a sender matches a message from connection `c`
    only if `c` is the primary owner of that name at that moment - standing in the name's queue is not enough. -/
theorem sender_rule_needs_the_owner (b : Bus) (c : ConnId) (a : Option ConnId) (m : Msg) (r : MatchRule) (n : Bytes)
    (hr : r.sender = some n) (hm : ruleMatches r (matchCtx b (some c) a m) = true) : b.primary? n = some c := by
  unfold ruleMatches at hm
  simp only [Bool.and_eq_true] at hm
  have hs : senderOK r (matchCtx b (some c) a m) = true := hm.1.1.1.2
  unfold senderOK at hs
  rw [hr] at hs
  simpa [matchCtx] using hs

/-- a connection that merely waits for the name (it is in the queue, somebody else is first) never satisfies such a rule -/
theorem waiter_does_not_match_sender_rule (b : Bus) (c o : ConnId) (a : Option ConnId) (m : Msg) (r : MatchRule) (n : Bytes)
    (hr : r.sender = some n) (ho : b.primary? n = some o) (hne : o ≠ c) : ruleMatches r (matchCtx b (some c) a m) = false := by
  cases h : ruleMatches r (matchCtx b (some c) a m) with
  | false => rfl
  | true =>
    have := sender_rule_needs_the_owner b c a m r n hr h
    rw [ho] at this
    exact absurd (Option.some.inj this) hne

/-- likewise `destination='name'` (an eavesdropping rule): the message must be addressed to the name's present owner -/
theorem destination_rule_needs_the_owner (b : Bus) (s : Option ConnId) (a : ConnId) (m : Msg) (r : MatchRule) (n : Bytes)
    (hr : r.dest = some n) (hm : ruleMatches r (matchCtx b s (some a) m) = true) : b.primary? n = some a := by
  unfold ruleMatches at hm
  simp only [Bool.and_eq_true] at hm
  have hd : destOK r (matchCtx b s (some a) m) = true := hm.1.1.2
  unfold destOK at hd
  rw [hr] at hd
  simp only [matchCtx] at hd
  cases hmd : m.dest with
  | none => rw [hmd] at hd; simp at hd
  | some md =>
    rw [hmd] at hd
    by_cases he : r.eavesdrop = true
    · simpa [he] using hd
    · simp [he] at hd

end Dbus.Props.C07Bus
