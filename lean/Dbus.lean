/-
  Root of the library: importing the property files brings in everything they rest on
  (`Spec`, `Model`, `Proofs`); the two modules below them that no property file imports are named too.
-/
import Dbus.Model.Bus.Table
import Dbus.Proofs.Tables
import Dbus.Props.C01
import Dbus.Props.C02
import Dbus.Props.C03
import Dbus.Props.C04
import Dbus.Props.C05
import Dbus.Props.C06
import Dbus.Props.C07
import Dbus.Props.C07Bus
import Dbus.Props.C08
import Dbus.Props.C09
import Dbus.Props.C10
import Dbus.Props.C11
import Dbus.Props.C12
import Dbus.Props.C13
import Dbus.Props.C14
import Dbus.Props.C15
import Dbus.Props.C16
import Dbus.Props.C17
import Dbus.Props.C18
import Dbus.Props.C19
import Dbus.Props.C20
